import Op2Proofs.Path.Split
/-!
# Extension laws: `replaceExtension` then `extension`, for every path

Whatever precedes it (root name, root directory, directories, nothing), the component `extension` looks at in a path
that ends in a plain name `n` has a text that ends in `n`.  Hence `extension (B ++ "." ++ s) = "." ++ s` for every `B`
and every extension body `s` (non-empty, no `.`, no `/`), and `replaceExtension f e` has exactly that shape.
-/
namespace Op2.Path
open Op2

def extBody : Bytes → Bytes
  | [] => []
  | c :: r => if c = dot then r else c :: r

/-- an extension in the library's own sense: `s` or `"." ++ s` with `s` non-empty, free of `.` and `/` -/
def IsExt (e : Bytes) : Prop := extBody e ≠ [] ∧ dot ∉ extBody e ∧ sep ∉ extBody e
instance (e : Bytes) : Decidable (IsExt e) := by unfold IsExt; infer_instance

theorem extBody_cons (c : UInt8) (r : Bytes) : extBody (c :: r) = if c = dot then r else c :: r := rfl

theorem extBody_cases (e : Bytes) : e = extBody e ∨ e = dot :: extBody e := by
  cases e with
  | nil => exact .inl rfl
  | cons c r =>
    rw [extBody_cons]
    split
    · rename_i h; exact .inr (by rw [h])
    · exact .inl rfl

theorem extBody_of {s e : Bytes} (hs : s ≠ []) (hd : dot ∉ s) (he : e = s ∨ e = dot :: s) : extBody e = s := by
  rcases he with rfl | rfl
  · cases e with
    | nil => exact absurd rfl hs
    | cons c r => exact (extBody_cons c r).trans (if_neg fun h => hd (by rw [h]; exact List.mem_cons_self))
  · exact (extBody_cons dot s).trans (if_pos rfl)

theorem isExt_iff (e : Bytes) :
    IsExt e ↔ ∃ s, s ≠ [] ∧ dot ∉ s ∧ sep ∉ s ∧ (e = s ∨ e = dot :: s) :=
  ⟨fun h => ⟨extBody e, h.1, h.2.1, h.2.2, extBody_cases e⟩,
   fun ⟨s, h1, h2, h3, he⟩ => by unfold IsExt; rw [extBody_of h1 h2 he]; exact ⟨h1, h2, h3⟩⟩

theorem findIdx_first (p : UInt8 → Bool) (a : Bytes) (x : UInt8) (b : Bytes)
    (ha : ∀ y ∈ a, p y = false) (hx : p x = true) : (a ++ x :: b).findIdx? p = some a.length := by
  rw [List.findIdx?_append, List.findIdx?_eq_none_iff.mpr ha, List.findIdx?_cons, if_pos hx]
  simp

theorem extPos_stem_dot_body (base s : Bytes) (hd : dot ∉ s) (h : s ≠ [] ∨ (base ≠ [] ∧ base.head? ≠ some dot)) :
    extPos (base ++ dot :: s) = some base.length := by
  unfold extPos
  have hne : (base ++ dot :: s).isEmpty = false := by cases base <;> rfl
  rw [hne]
  simp only [Bool.false_eq_true, if_false]
  have hfind : (base ++ dot :: s).reverse.findIdx? (· = dot) = some s.length := by
    have e : (base ++ dot :: s).reverse = s.reverse ++ dot :: base.reverse := by simp
    rw [e, findIdx_first _ s.reverse dot base.reverse]
    · simp
    · intro y hy
      have : y ∈ s := by simpa using hy
      simp only [decide_eq_false_iff_not]
      intro e; rw [e] at this; exact hd this
    · simp
  have hlen : (base ++ dot :: s).length = base.length + 1 + s.length := by simp; omega
  split
  · rename_i hcond
    rcases h with hs | ⟨hb, hbd⟩
    · -- only possible for base = [] and s a single byte
      have hspos : 0 < s.length := List.length_pos_iff.mpr hs
      have hb : base = [] := by
        apply List.eq_nil_of_length_eq_zero
        omega
      subst hb
      obtain ⟨x, rfl⟩ : ∃ x, s = [x] := by
        cases s with
        | nil => exact absurd rfl hs
        | cons x r =>
          cases r with
          | nil => exact ⟨x, rfl⟩
          | cons y r' => simp at hlen hcond <;> omega
      have hx : x ≠ dot := by intro e; apply hd; simp [e]
      simp [hx]
    · obtain ⟨c, r, rfl⟩ := List.exists_cons_of_ne_nil hb
      exact absurd hcond.2 hbd
  · rw [hfind]
    simp only [hlen, Option.some.injEq]
    omega

theorem extCmpt_plain (n : Bytes) (h : Plain n) : extCmpt n = some (0, n) := by
  unfold extCmpt
  rw [split_plain n h]

theorem extCmpt_ends_plain (B n : Bytes) (hn : Plain n) : ∃ p t, extCmpt (B ++ n) = some (p, t ++ n) := by
  have plain_app : ∀ t : Bytes, sep ∉ t → Plain (t ++ n) := fun t ht =>
    ⟨fun e => hn.1 (List.append_eq_nil_iff.mp e).2, fun h => (List.mem_append.mp h).elim ht hn.2⟩
  rcases exists_last_sep B with hB | ⟨B0, t, rfl, ht⟩
  · exact ⟨0, B, extCmpt_plain _ (plain_app B hB)⟩
  · rw [List.append_assoc, List.cons_append]
    by_cases h0 : B0 = [sep]
    · subst h0
      exact ⟨0, sep :: sep :: t, by unfold extCmpt; rw [List.singleton_append, split_rootName _ (plain_app t ht)]; rfl⟩
    · obtain ⟨X, c, e, hc, hk⟩ := split_lastIs B0 (t ++ n) (plain_app t ht) h0
      refine ⟨c.pos, t, ?_⟩
      unfold extCmpt
      rw [e]
      cases X with
      | nil => simp [hc]
      | cons x X' =>
        cases X' with
        | nil => simp [hk, hc]
        | cons y X'' =>
          have hl : (y :: (X'' ++ [c])).getLast? = some c := List.getLast?_eq_some_iff.mpr ⟨y :: X'', by simp⟩
          simp [hl, hk, hc]

theorem extension_dot_body (B s : Bytes) (hs : s ≠ []) (hd : dot ∉ s) (hsep : sep ∉ s) :
    extension (B ++ dot :: s) = dot :: s := by
  have hn : Plain (dot :: s) := ⟨by simp, by simp only [List.mem_cons, not_or]; exact ⟨by decide, hsep⟩⟩
  obtain ⟨p, t, e⟩ := extCmpt_ends_plain B (dot :: s) hn
  unfold extension
  rw [e]
  simp only [extPos_stem_dot_body t s hd (.inl hs), List.drop_left]

theorem replaceExtension_shape (f : Bytes) :
    ∃ base, ∀ e, replaceExtension f e =
      if !e.isEmpty ∧ e.head? ≠ some dot then base ++ [dot] ++ e else base ++ e :=
  ⟨match extCmpt f with
    | some (p, fn) => (match extPos fn with | some i => f.take (p + i) | none => f)
    | none => f, fun _ => rfl⟩

theorem extension_replaceExtension (f e : Bytes) (he : IsExt e) :
    extension (replaceExtension f e) = dot :: extBody e := by
  obtain ⟨base, hr⟩ := replaceExtension_shape f
  have : replaceExtension f e = base ++ dot :: extBody e := by
    rw [hr e]
    cases e with
    | nil => exact absurd rfl he.1
    | cons c r =>
      by_cases hc : c = dot
      · subst hc; simp [extBody]
      · simp [extBody, hc]
  rw [this]
  exact extension_dot_body base (extBody e) he.1 he.2.1 he.2.2

theorem extensionMatches_of (x e e' : Bytes) (he : IsExt e) (hx : extension x = dot :: extBody e)
    (hu : Str.toUpper e' = Str.toUpper e) : extensionMatches x e' = true := by
  unfold extensionMatches
  simp only [hx, hu, beq_iff_eq]
  cases e with
  | nil => exact absurd rfl he.1
  | cons c r =>
    by_cases hc : c = dot
    · subst hc
      simp [extBody, toUpper_cons, upperB_dot]
    · have hcu : Str.upperB c ≠ dot := fun h => hc ((upperB_eq_dot c).mp h)
      simp [extBody, hc, toUpper_cons, upperB_dot, hcu]

theorem chext_matches (f e e' : Bytes) (he : IsExt e) (hu : Str.toUpper e' = Str.toUpper e) :
    extensionMatches (changeFileExtension f e) e' = true :=
  extensionMatches_of _ e e' he (extension_replaceExtension f e he) hu

end Op2.Path
