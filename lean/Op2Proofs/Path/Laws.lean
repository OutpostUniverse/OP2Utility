import Op2Proofs.Path.Tokens
/-!
# The path laws of C19 on the model

A leading `./` is ignored by `pathsAreEqual` exactly on relative paths; `xAppend d n` for relative `d`, plain `n`;
`getDirectory` / `getFilename` / `xAppend` re-join to a path with the same elements.
-/
namespace Op2.Path
open Op2

theorem getLast_cons_cons_ne_nil (a b : UInt8) (q : Bytes) (h : q ≠ []) :
    (a :: b :: q).getLast? = q.getLast? := by
  rw [List.getLast?_cons_cons, List.getLast?_cons_of_ne_nil h]

theorem elems_dotslash (q : Bytes) (h : Rel q) (hq : q ≠ []) :
    elems ([dot, sep] ++ q) = [dot] :: elems q := by
  rw [elems_rel _ (rel_dotslash q), elems_rel q h]
  have e : [dot, sep] ++ q = [dot] ++ sep :: q := rfl
  rw [e, toks_append_sep]
  have e2 : ([dot] ++ sep :: q).getLast? = q.getLast? := getLast_cons_cons_ne_nil dot sep q hq
  rw [e2]
  rfl

theorem stripDots_dot_cons (l : List Bytes) : stripDots ([dot] :: l) = stripDots l := by
  simp [stripDots]

theorem pathsAreEqual_dotslash (p : Bytes) (h : Rel p) : pathsAreEqual ([dot, sep] ++ p) p = true := by
  rw [pathsAreEqual_iff]
  by_cases hp : p = []
  · subst hp; decide
  · rw [pathKey_rel _ (rel_dotslash p), pathKey_rel p h, elems_dotslash p h hp, List.map_cons, toUpper_dot,
      stripDots_dot_cons]

theorem stripDots_cons_of_sep (c : Bytes) (r : List Bytes) (hc : sep ∈ c) : stripDots (c :: r) = c :: r := by
  have : c ≠ [dot] := by intro e; rw [e] at hc; revert hc; decide
  simp [stripDots, this]

theorem pathKey_rooted (r : Bytes) : ∃ t ts, pathKey (sep :: r) = t :: ts ∧ sep ∈ t := by
  obtain ⟨c, cs, e, _, hc⟩ := split_rootHead (Str.toUpper r)
  refine ⟨c.text, cs.map (·.text), ?_, hc⟩
  have he : elems (Str.toUpper (sep :: r)) = c.text :: cs.map (·.text) := by
    unfold elems; rw [show Str.toUpper (sep :: r) = sep :: Str.toUpper r from rfl, e]; rfl
  unfold pathKey
  rw [he, stripDots_cons_of_sep _ _ hc]

theorem pathsAreEqual_dotslash_abs (r : Bytes) : pathsAreEqual ([dot, sep] ++ sep :: r) (sep :: r) = false := by
  apply Bool.eq_false_iff.mpr
  intro h
  rw [pathsAreEqual_iff] at h
  obtain ⟨t, ts, e, ht⟩ := pathKey_rooted r
  have hpl := pathKey_rel_plain _ (rel_dotslash (sep :: r))
  rw [h, e] at hpl
  exact (hpl t List.mem_cons_self).2 ht

theorem pathsAreEqual_dotslash_iff (p : Bytes) : pathsAreEqual ([dot, sep] ++ p) p = true ↔ Rel p := by
  constructor
  · intro h
    apply Classical.byContradiction
    intro hn
    obtain ⟨r, rfl⟩ := (not_rel_iff p).mp hn
    rw [pathsAreEqual_dotslash_abs r] at h
    exact absurd h (by decide)
  · exact pathsAreEqual_dotslash p

theorem appendRaw_rel_plain (d n : Bytes) (hd : Rel d) (hn : Plain n) :
    Rel (appendRaw d n) ∧ elems (appendRaw d n) = toks d [] ++ [n] := by
  by_cases hd0 : d = []
  · subst hd0
    rw [appendRaw_nil_left]
    exact ⟨plain_rel hn, by rw [elems_plain n hn]; rfl⟩
  · have hrel := rel_append hd hd0
    by_cases hl : d.getLast? = some sep
    · rw [appendRaw_endsSep d n hl]
      refine ⟨hrel _, ?_⟩
      obtain ⟨d', rfl⟩ := List.getLast?_eq_some_iff.mp hl
      rw [elems_rel _ (hrel _), if_neg (getLast_append_plain _ n hn)]
      have e : d' ++ [sep] ++ n = d' ++ sep :: n := by simp
      rw [e, toks_append_sep, toks_snoc_sep, toks_nosep_plain n hn, List.append_nil]
    · rw [appendRaw_plain d n hd0 hl hn]
      refine ⟨hrel _, ?_⟩
      rw [elems_rel _ (hrel _)]
      have e : d ++ sep :: n = d ++ [sep] ++ n := by simp
      rw [e, if_neg (getLast_append_plain _ n hn), ← e, toks_append_sep, toks_nosep_plain n hn]
      simp

theorem xAppend_rel_plain (d n : Bytes) (hd : Rel d) (hn : Plain n) :
    xAppend d n = .ok (joinT (toks d [] ++ [n])) := by
  unfold xAppend
  rw [hasRootComponent_rel n (plain_rel hn)]
  have ⟨h1, h2⟩ := appendRaw_rel_plain d n hd hn
  rw [genericString_rel _ h1, h2]
  rfl

theorem toks_append_plain (d n : Bytes) (hn : Plain n) : ∀ t ∈ toks d [] ++ [n], Plain t := by
  intro t ht
  rw [List.mem_append] at ht
  rcases ht with ht | ht
  · exact toks_plain d [] (by simp) t ht
  · simp only [List.mem_singleton] at ht; rw [ht]; exact hn

theorem filename_joinT_snoc (ts : List Bytes) (n : Bytes) (h : ∀ t ∈ ts ++ [n], Plain t) :
    filename (joinT (ts ++ [n])) = n := by
  rw [filename_eq, elems_joinT _ h]
  simp

theorem elems_ne_nil_of_rel (p : Bytes) (h : Rel p) (hp : p ≠ []) : elems p ≠ [] := by
  rw [elems_rel p h]
  intro e
  exact toks_ne_nil_of_rel p h hp (List.append_eq_nil_iff.mp e).1

theorem getDirectory_rel (p : Bytes) (h : Rel p) (hp : p ≠ []) :
    Rel (getDirectory p) ∧ toks (getDirectory p) [] = (elems p).dropLast := by
  unfold getDirectory
  rw [List.isEmpty_eq_false_iff.mpr hp]
  simp only [Bool.false_eq_true, if_false]
  by_cases hl : p.getLast? = some sep
  · rw [if_pos hl]
    refine ⟨h, ?_⟩
    rw [elems_rel p h, if_pos hl, List.dropLast_concat]
  · rw [if_neg hl]
    have hpl : ∀ t ∈ (elems p).dropLast, Plain t :=
      fun t ht => elems_rel_plain p h t (List.dropLast_subset _ ht)
    rw [parentPath_rel p h, genericString_joinT _ hpl]
    by_cases hd : (elems p).dropLast = []
    · rw [hd]
      exact ⟨by decide, by rfl⟩
    · have hne : joinT (elems p).dropLast ≠ [] := fun e => hd ((joinT_eq_nil _ hpl).mp e)
      rw [List.isEmpty_eq_false_iff.mpr hne]
      simp only [Bool.false_eq_true, if_false]
      constructor
      · exact rel_append (joinT_rel _ hpl) hne _
      · rw [toks_snoc_sep, toks_joinT _ hpl]

theorem filename_rel_plain (p : Bytes) (h : Rel p) (hp : p ≠ []) :
    Plain (filename p) ∧ (elems p).dropLast ++ [filename p] = elems p := by
  have hne := elems_ne_nil_of_rel p h hp
  rw [filename_eq]
  obtain ⟨ys, a, e⟩ : ∃ ys a, elems p = ys ++ [a] := by
    have := List.dropLast_concat_getLast hne
    exact ⟨_, _, this.symm⟩
  rw [e]
  simp only [List.getLast?_append, List.getLast?_singleton, Option.some_or, Option.getD_some,
    List.dropLast_concat, and_true]
  apply elems_rel_plain p h
  rw [e]; simp

theorem rejoin_rel (p : Bytes) (h : Rel p) :
    xAppend (getDirectory p) (getFilename p) = .ok (joinT (elems p)) := by
  by_cases hp : p = []
  · subst hp; rfl
  · have ⟨hd1, hd2⟩ := getDirectory_rel p h hp
    have ⟨hf1, hf2⟩ := filename_rel_plain p h hp
    unfold getFilename
    rw [xAppend_rel_plain _ _ hd1 hf1, hd2, hf2]

end Op2.Path
