import Op2Model.Path
import Op2Proofs.StrOrder
/-!
# The component structure of a path (`scan`, `split`)

Every path `B/n` with `n` plain and `B ≠ "/"` ends in the `file` component `n` — whatever `B` is (relative, rooted, with a
root name, with doubled or trailing separators, empty); `"//n"` is a root name, one component that is the whole string.
The file-name and extension laws rest on this one analysis of `split`.
-/
namespace Op2.Path
open Op2

def Rel (s : Bytes) : Prop := s.head? ≠ some sep
instance (s : Bytes) : Decidable (Rel s) := by unfold Rel; infer_instance

def Plain (t : Bytes) : Prop := t ≠ [] ∧ sep ∉ t
instance (t : Bytes) : Decidable (Plain t) := by unfold Plain; infer_instance

theorem plain_getLast {u : Bytes} (hu : Plain u) : u.getLast? ≠ some sep :=
  fun e => hu.2 (List.mem_of_getLast? e)

theorem plain_rel {n : Bytes} (h : Plain n) : Rel n := by
  cases n with
  | nil => exact absurd rfl h.1
  | cons c r => intro e; apply h.2; simp at e; simp [e]

theorem rel_append {d : Bytes} (hd : Rel d) (h0 : d ≠ []) (x : Bytes) : Rel (d ++ x) := by
  cases d with
  | nil => exact absurd rfl h0
  | cons c r => exact hd

theorem rel_dotslash (q : Bytes) : Rel ([dot, sep] ++ q) := by
  show (some dot : Option UInt8) ≠ some sep
  decide

theorem getLast_append_plain (a n : Bytes) (hn : Plain n) : (a ++ n).getLast? ≠ some sep := by
  rw [List.getLast?_append]
  cases h : n.getLast? with
  | none => simp at h; exact absurd h hn.1
  | some l =>
    intro e
    simp only [Option.some_or, Option.some.injEq] at e
    rw [e] at h; exact plain_getLast hn h

theorem not_rel_iff (s : Bytes) : ¬ Rel s ↔ ∃ r, s = sep :: r := by
  cases s with
  | nil => simp [Rel]
  | cons c r => simp [Rel]

theorem stripDots_plain (l : List Bytes) (h : ∀ t ∈ l, Plain t) : ∀ t ∈ stripDots l, Plain t := by
  induction l with
  | nil => intro t ht; simp [stripDots] at ht
  | cons c r ih =>
    intro t ht
    simp only [stripDots] at ht
    split at ht
    · exact ih (fun u hu => h u (by simp [hu])) t ht
    · exact h t ht

/-- the non-empty `/`-separated tokens of `s`; `cur` is the current token, reversed -/
def toks : Bytes → Bytes → List Bytes
  | [], cur => if cur.isEmpty then [] else [cur.reverse]
  | c :: rest, cur =>
      if c = sep then (if cur.isEmpty then toks rest [] else cur.reverse :: toks rest [])
      else toks rest (c :: cur)

theorem scan_eq (s : Bytes) : ∀ (off start : Nat) (cur : Bytes) (acc : List Cmpt),
    ∃ fs, scan s off start cur acc = acc.reverse ++ fs ∧ fs.map (·.text) = toks s cur ∧
      ∀ c ∈ fs, c.kind = Kind.file := by
  induction s with
  | nil =>
    intro off start cur acc
    simp only [scan, toks]
    split
    · exact ⟨[], (List.append_nil _).symm, rfl, fun _ h => nomatch h⟩
    · exact ⟨[_], List.reverse_cons, rfl, fun c h => by rw [List.mem_singleton.mp h]⟩
  | cons c rest ih =>
    intro off start cur acc
    simp only [scan, toks]
    split
    · split
      · exact ih _ _ _ _
      · obtain ⟨fs, e, ht, hk⟩ := ih (off + 1) (off + 1) [] ({ kind := .file, pos := start, text := cur.reverse } :: acc)
        refine ⟨_ :: fs, by rw [e, List.reverse_cons, List.append_assoc]; rfl, by rw [List.map_cons, ht], ?_⟩
        intro c hc
        rcases List.mem_cons.mp hc with rfl | hc
        · rfl
        · exact hk c hc
    · exact ih _ _ _ _

theorem scan_fresh (s : Bytes) (off start : Nat) (cur : Bytes) :
    (scan s off start cur []).map (·.text) = toks s cur ∧ ∀ c ∈ scan s off start cur [], c.kind = Kind.file := by
  obtain ⟨fs, e, ht, hk⟩ := scan_eq s off start cur []
  rw [e]
  exact ⟨ht, hk⟩

theorem toks_append_sep (a b : Bytes) : ∀ cur : Bytes,
    toks (a ++ sep :: b) cur = toks a cur ++ toks b [] := by
  induction a with
  | nil =>
    intro cur
    simp only [List.nil_append, toks, if_true]
    split <;> simp
  | cons c rest ih =>
    intro cur
    simp only [List.cons_append, toks]
    split
    · split
      · exact ih _
      · rw [ih]; simp
    · exact ih _

theorem toks_snoc_sep (a cur : Bytes) : toks (a ++ [sep]) cur = toks a cur := by
  rw [show a ++ [sep] = a ++ sep :: [] from rfl, toks_append_sep]
  exact List.append_nil _

theorem scan_nosep (n : Bytes) : ∀ (off start : Nat) (cur : Bytes) (acc : List Cmpt), sep ∉ n →
    ¬ (cur = [] ∧ n = []) →
    scan n off start cur acc = (({ kind := Kind.file, pos := start, text := cur.reverse ++ n } : Cmpt) :: acc).reverse := by
  induction n with
  | nil =>
    intro off start cur acc _ hne
    have hc : cur ≠ [] := fun e => hne ⟨e, rfl⟩
    simp only [scan, List.isEmpty_eq_false_iff.mpr hc, Bool.false_eq_true, if_false, List.append_nil]
  | cons c r ih =>
    intro off start cur acc h _
    simp only [List.mem_cons, not_or] at h
    have hc : c ≠ sep := fun e => h.1 e.symm
    simp only [scan, if_neg hc]
    rw [ih _ _ _ _ h.2 (by simp)]
    simp

theorem toks_nosep (n cur : Bytes) (h : sep ∉ n) :
    toks n cur = if cur.isEmpty ∧ n = [] then [] else [cur.reverse ++ n] := by
  by_cases he : cur = [] ∧ n = []
  · rw [he.1, he.2]; rfl
  · rw [← (scan_fresh n 0 0 cur).1, scan_nosep n 0 0 cur [] h he, if_neg (by simpa using he)]
    rfl

theorem toks_nosep_plain (n : Bytes) (hn : Plain n) : toks n [] = [n] := by
  rw [toks_nosep n [] hn.2]; simp [hn.1]

theorem withTrailingDot_eq (s : Bytes) (cs : List Cmpt) :
    withTrailingDot s cs = cs ++
      if s.getLast? = some sep ∧ cs.getLast?.map (·.kind) = some Kind.file
      then [{ kind := Kind.file, pos := s.length, text := [dot] }] else [] := by
  unfold withTrailingDot
  split
  · rename_i l last hl hlast
    simp only [hl, hlast, Option.map_some, Option.some.injEq]
    split <;> simp
  · rename_i hno
    rw [if_neg, List.append_nil]
    intro ⟨h1, h2⟩
    obtain ⟨last, hlast, -⟩ := Option.map_eq_some_iff.mp h2
    exact hno _ _ h1 hlast

theorem withTrailingDot_noop (s : Bytes) (cs : List Cmpt) (h : s.getLast? ≠ some sep) :
    withTrailingDot s cs = cs := by
  rw [withTrailingDot_eq, if_neg (fun e => h e.1), List.append_nil]

theorem split_rel (s : Bytes) (h : Rel s) : split s = withTrailingDot s (scan s 0 0 [] []) := by
  cases s with
  | nil => simp [split, withTrailingDot, scan]
  | cons c r =>
    have hc : c ≠ sep := by intro e; apply h; simp [e]
    simp only [split, if_neg hc]

theorem split_plain (n : Bytes) (h : Plain n) :
    split n = [({ kind := Kind.file, pos := 0, text := n } : Cmpt)] := by
  rw [split_rel n (plain_rel h), scan_nosep n 0 0 [] [] h.2 (by simp [h.1]), withTrailingDot_noop _ _ (plain_getLast h)]
  rfl

theorem elems_plain (n : Bytes) (h : Plain n) : elems n = [n] := by
  unfold elems
  rw [split_plain n h]
  rfl

theorem filename_plain (n : Bytes) (hn : Plain n) : filename n = n := by
  unfold filename
  rw [split_plain n hn]
  rfl

theorem upperB_eq_sep (c : UInt8) : Str.upperB c = sep ↔ c = sep := Str.upperB_eq_low (by decide)

theorem upperB_eq_dot (c : UInt8) : Str.upperB c = dot ↔ c = dot := Str.upperB_eq_low (by decide)

theorem upperB_dot : Str.upperB dot = dot := by decide

theorem toUpper_isEmpty (s : Bytes) : (Str.toUpper s).isEmpty = s.isEmpty := by
  cases s <;> rfl

theorem toUpper_reverse (s : Bytes) : Str.toUpper s.reverse = (Str.toUpper s).reverse := by
  simp [Str.toUpper]

theorem toUpper_append (a b : Bytes) : Str.toUpper (a ++ b) = Str.toUpper a ++ Str.toUpper b := by
  simp [Str.toUpper]

theorem toUpper_nil : Str.toUpper ([] : Bytes) = [] := rfl

theorem toUpper_cons (c : UInt8) (r : Bytes) : Str.toUpper (c :: r) = Str.upperB c :: Str.toUpper r := rfl

theorem toUpper_dot : Str.toUpper [dot] = [dot] := by decide

theorem rel_toUpper (s : Bytes) : Rel (Str.toUpper s) ↔ Rel s := by
  cases s with
  | nil => simp [Rel, Str.toUpper]
  | cons c r => simp [Rel, Str.toUpper, upperB_eq_sep]

theorem getLast_toUpper_sep (s : Bytes) : (Str.toUpper s).getLast? = some sep ↔ s.getLast? = some sep := by
  unfold Str.toUpper
  rw [List.getLast?_map]
  cases s.getLast? with
  | none => simp
  | some l => simp [upperB_eq_sep]

/-- what `PathsAreEqual` compares: the upper-cased components without leading `.`s -/
def pathKey (a : Bytes) : List Bytes := stripDots (elems (Str.toUpper a))

theorem pathsAreEqual_eq (a b : Bytes) : pathsAreEqual a b = (pathKey a == pathKey b) := rfl

theorem pathsAreEqual_iff (a b : Bytes) : pathsAreEqual a b = true ↔ pathKey a = pathKey b := by
  rw [pathsAreEqual_eq, beq_iff_eq]

theorem pathKey_eq_of_toUpper_eq {a b : Bytes} (h : Str.toUpper a = Str.toUpper b) : pathKey a = pathKey b :=
  congrArg (fun u => stripDots (elems u)) h

theorem plain_toUpper {n : Bytes} (h : Plain n) : Plain (Str.toUpper n) := by
  refine ⟨fun e => h.1 (List.map_eq_nil_iff.mp e), fun hm => ?_⟩
  obtain ⟨c, hc, e⟩ := List.mem_map.mp hm
  rw [(upperB_eq_sep c).mp e] at hc
  exact h.2 hc

theorem pathKey_plain (n : Bytes) (h : Plain n) (hd : n ≠ [dot]) : pathKey n = [Str.toUpper n] := by
  have hu : Str.toUpper n ≠ [dot] := by
    intro e
    cases n with
    | nil => cases e
    | cons c r =>
      rw [toUpper_cons, List.cons.injEq, upperB_eq_dot] at e
      exact hd (by rw [e.1, List.map_eq_nil_iff.mp e.2])
  unfold pathKey
  rw [elems_plain _ (plain_toUpper h), stripDots, if_neg hu]

/-- the list starts with a root name or root directory whose text contains `/`, so that text is neither `"."` nor
    plain: what tells the elements of a rooted path from those of a relative one (`pathKey_rooted`) -/
def RootHead (cs : List Cmpt) : Prop :=
  ∃ c r, cs = c :: r ∧ (c.kind = Kind.rootName ∨ c.kind = Kind.rootDir) ∧ sep ∈ c.text

theorem withTrailingDot_head (s : Bytes) (c : Cmpt) (r : List Cmpt) :
    ∃ r', withTrailingDot s (c :: r) = c :: r' :=
  ⟨_, (withTrailingDot_eq s (c :: r)).trans (List.cons_append ..)⟩

theorem afterRootDir_head (s : Bytes) (c : Cmpt) (pre : List Cmpt) (rest : Bytes) (off : Nat)
    (hs : sep ∈ s) (hc : (c.kind = Kind.rootName ∨ c.kind = Kind.rootDir) ∧ sep ∈ c.text) :
    RootHead (afterRootDir s (c :: pre) rest off) := by
  unfold afterRootDir
  simp only
  split
  · exact ⟨_, _, rfl, Or.inr rfl, hs⟩
  · obtain ⟨r', e⟩ := withTrailingDot_head s c (pre ++ scan rest off off [] [])
    rw [List.cons_append, e]
    exact ⟨_, _, rfl, hc⟩

theorem takeWhile_eq_self_of_dropWhile_nil (p : UInt8 → Bool) (l : Bytes) (h : l.dropWhile p = []) :
    l.takeWhile p = l := by
  have := List.takeWhile_append_dropWhile (p := p) (l := l)
  rw [h, List.append_nil] at this
  exact this

theorem dropWhile_head_sep (l : Bytes) (c : UInt8) (r : Bytes) (h : l.dropWhile (· ≠ sep) = c :: r) : c = sep := by
  have := List.head?_dropWhile_not (· ≠ sep) l
  rw [h] at this
  simpa using this

theorem dropWhile_nil_all (p : UInt8 → Bool) (l : Bytes) (h : l.dropWhile p = []) : ∀ x ∈ l, p x = true := by
  have := List.all_takeWhile (l := l) (p := p)
  rw [takeWhile_eq_self_of_dropWhile_nil p l h] at this
  exact List.all_eq_true.mp this

/-- the components of a path that starts with `/`: a root component alone (`"/"`, `"//"`, `"//name"`), or root
    components followed by what `scan` makes of `w`, where `w` is what follows some separator of the path -/
theorem split_rooted (r0 : Bytes) :
    (∃ c, split (sep :: r0) = [c] ∧ (c.kind = Kind.rootName ∨ c.kind = Kind.rootDir) ∧ c.text = sep :: r0 ∧
      (r0 = [] ∨ ∃ m, r0 = sep :: m ∧ sep ∉ m)) ∨
    ∃ c pre w off u, split (sep :: r0) = afterRootDir (sep :: r0) (c :: pre) w off ∧
      ((c.kind = Kind.rootName ∨ c.kind = Kind.rootDir) ∧ sep ∈ c.text) ∧ sep :: r0 = u ++ sep :: w := by
  have rd : ((({ kind := Kind.rootDir, pos := 0, text := [sep] } : Cmpt).kind = Kind.rootName ∨
      ({ kind := Kind.rootDir, pos := 0, text := [sep] } : Cmpt).kind = Kind.rootDir) ∧
      sep ∈ ({ kind := Kind.rootDir, pos := 0, text := [sep] } : Cmpt).text) := ⟨Or.inr rfl, by simp⟩
  unfold split
  simp only [if_true]
  split
  · exact .inl ⟨_, rfl, Or.inr rfl, rfl, Or.inl rfl⟩
  · rename_i c1 r1
    split
    · rename_i hc1
      subst hc1
      split
      · exact .inl ⟨_, rfl, Or.inl rfl, rfl, Or.inr ⟨[], rfl, by simp⟩⟩
      · rename_i c2 r2
        split
        · split
          · rename_i hafter
            refine .inl ⟨_, rfl, Or.inl rfl, ?_, Or.inr ⟨c2 :: r2, rfl, fun h => ?_⟩⟩
            · simp only [takeWhile_eq_self_of_dropWhile_nil _ _ hafter]
            · simpa using dropWhile_nil_all _ _ hafter sep h
          · rename_i c' after' hafter
            refine .inr ⟨_, _, after', _, sep :: sep :: (c2 :: r2).takeWhile (· ≠ sep), rfl, ⟨Or.inl rfl, by simp⟩, ?_⟩
            have := List.takeWhile_append_dropWhile (p := (· ≠ sep)) (l := c2 :: r2)
            rw [hafter, dropWhile_head_sep _ _ _ hafter] at this
            rw [List.cons_append, List.cons_append, this]
        · exact .inr ⟨_, _, _, _, [], rfl, rd, rfl⟩
    · exact .inr ⟨_, _, _, _, [], rfl, rd, rfl⟩

theorem split_rootHead (r0 : Bytes) : RootHead (split (sep :: r0)) := by
  rcases split_rooted r0 with ⟨c, e, hk, ht, -⟩ | ⟨c, pre, w, off, u, e, hc, -⟩
  · exact ⟨c, [], e, hk, by rw [ht]; simp⟩
  · rw [e]; exact afterRootDir_head _ _ _ _ _ (by simp) hc

/-- `"//n"` is a root name: a single component whose text is the whole string -/
theorem split_rootName (n : Bytes) (hn : Plain n) :
    split (sep :: sep :: n) = [({ kind := Kind.rootName, pos := 0, text := sep :: sep :: n } : Cmpt)] := by
  obtain ⟨n0, n', rfl⟩ := List.exists_cons_of_ne_nil hn.1
  have hn0s : n0 ≠ sep := by intro e; apply hn.2; rw [e]; simp
  have hall : ∀ a ∈ n0 :: n', (fun x : UInt8 => decide (x ≠ sep)) a = true := by
    intro a ha
    simp only [decide_eq_true_eq]
    intro e; apply hn.2; rw [← e]; exact ha
  have hdrop : (n0 :: n').dropWhile (· ≠ sep) = [] := by
    have := List.dropWhile_append_of_pos (l₂ := ([] : Bytes)) hall
    rw [List.append_nil] at this
    exact this
  have htake := takeWhile_eq_self_of_dropWhile_nil _ _ hdrop
  unfold split
  simp only [if_true, if_pos hn0s, hdrop, htake]

def LastIs (cs : List Cmpt) (n : Bytes) : Prop := ∃ X c, cs = X ++ [c] ∧ c.text = n ∧ c.kind = Kind.file

theorem filename_of_lastIs {s n : Bytes} (h : LastIs (split s) n) : filename s = n := by
  obtain ⟨X, c, e, ht, _⟩ := h
  unfold filename
  rw [e]
  simp [ht]

/-- what may follow a separator in a path that ends in `/n` -/
def Tail (n w : Bytes) : Prop := w = n ∨ ∃ a, w = a ++ sep :: n

theorem scan_lastIs (n w : Bytes) (hn : Plain n) (hw : Tail n w) (off : Nat) : LastIs (scan w off off [] []) n := by
  obtain ⟨ts, ht⟩ : ∃ ts, toks w [] = ts ++ [n] := by
    rcases hw with rfl | ⟨a, rfl⟩
    · exact ⟨[], toks_nosep_plain w hn⟩
    · exact ⟨toks a [], by rw [toks_append_sep, toks_nosep_plain n hn]⟩
  obtain ⟨X, l, e, -, hl⟩ := List.map_eq_append_iff.mp (ht ▸ (scan_fresh w off off []).1)
  obtain ⟨c, rfl, hc⟩ := List.map_eq_singleton_iff.mp hl
  exact ⟨X, c, e, hc, (scan_fresh w off off []).2 c (by rw [e]; simp)⟩

theorem afterRootDir_lastIs (s : Bytes) (pre : List Cmpt) (n w : Bytes) (off : Nat) (hn : Plain n) (hw : Tail n w)
    (hs : s.getLast? ≠ some sep) : LastIs (afterRootDir s pre w off) n := by
  obtain ⟨X, c, e, ht, hk⟩ := scan_lastIs n w hn hw off
  unfold afterRootDir
  simp only [e]
  have hne : (X ++ [c]).isEmpty = false := by cases X <;> rfl
  rw [hne]
  simp only [Bool.false_eq_true, false_and, if_false]
  rw [withTrailingDot_noop _ _ hs]
  exact ⟨pre ++ X, c, by simp, ht, hk⟩

theorem cut_keeps_tail (x n u v : Bytes) (hn : sep ∉ n) (h : x ++ sep :: n = u ++ sep :: v) : Tail n v := by
  induction x generalizing u with
  | nil =>
    cases u with
    | nil =>
      simp only [List.nil_append, List.cons.injEq, true_and] at h
      exact Or.inl h.symm
    | cons d u' =>
      exfalso; apply hn
      simp only [List.nil_append, List.cons_append, List.cons.injEq] at h
      rw [h.2]; simp
  | cons c r ih =>
    cases u with
    | nil =>
      simp only [List.cons_append, List.nil_append, List.cons.injEq] at h
      exact Or.inr ⟨r, h.2.symm⟩
    | cons d u' =>
      simp only [List.cons_append, List.cons.injEq] at h
      exact ih u' h.2

theorem split_lastIs (B n : Bytes) (hn : Plain n) (hB : B ≠ [sep]) : LastIs (split (B ++ sep :: n)) n := by
  have hlast : (B ++ sep :: n).getLast? ≠ some sep := by
    have := getLast_append_plain (B ++ [sep]) n hn
    rwa [List.append_assoc] at this
  by_cases hrel : Rel (B ++ sep :: n)
  · rw [split_rel _ hrel, withTrailingDot_noop _ _ hlast]
    exact scan_lastIs n _ hn (.inr ⟨B, rfl⟩) 0
  · obtain ⟨r0, hr0⟩ := (not_rel_iff _).mp hrel
    rw [hr0] at hlast ⊢
    rcases split_rooted r0 with ⟨c, -, -, -, h0 | ⟨m, rfl, hm⟩⟩ | ⟨c, pre, w, off, u, e, -, hu⟩
    · -- `B/n = "/"`
      subst h0
      cases B with
      | nil => exact absurd (by simpa using hr0) hn.1
      | cons b B' => simp at hr0
    · -- `B/n = "//m"` with no separator in `m`: only for `B = "/"`
      cases B with
      | nil => exact absurd (by rw [show n = sep :: m by simpa using hr0]; simp) hn.2
      | cons b B' =>
        cases B' with
        | nil => exact absurd (by simp at hr0; rw [hr0.1]) hB
        | cons b' B'' => exact absurd (by simp at hr0; rw [← hr0.2.2]; simp) hm
    · rw [e]
      exact afterRootDir_lastIs _ _ n w off hn (cut_keeps_tail B n u w hn.2 (hr0.trans hu)) hlast

/-- `path(B + "/" + n).filename()` is `n` (for `B ≠ "/"`) -/
theorem filename_dir (B n : Bytes) (hn : Plain n) (hB : B ≠ [sep]) : filename (B ++ sep :: n) = n :=
  filename_of_lastIs (split_lastIs B n hn hB)

theorem getFilename_dir (B n : Bytes) (hn : Plain n) (hB : B ≠ [sep]) : getFilename (B ++ sep :: n) = getFilename n := by
  unfold getFilename
  rw [filename_dir B n hn hB, filename_plain n hn]

theorem exists_last_sep : ∀ B : Bytes, sep ∉ B ∨ ∃ B0 t, B = B0 ++ sep :: t ∧ sep ∉ t
  | [] => Or.inl (by simp)
  | c :: r => by
    rcases exists_last_sep r with h | ⟨B0, t, rfl, ht⟩
    · by_cases hc : c = sep
      · exact Or.inr ⟨[], r, by rw [hc]; rfl, h⟩
      · exact Or.inl (by simp only [List.mem_cons, not_or]; exact ⟨fun e => hc e.symm, h⟩)
    · exact Or.inr ⟨c :: B0, t, rfl, ht⟩

end Op2.Path
