import Op2Proofs.Path.Split
/-!
# Relative paths as token lists

For a path that does not start with a separator the offsets, accumulator and component kinds of `scan`/`split` do not
matter to the texts: the elements are `toks`, followed by `"."` when the string ends in a separator.  `genericString`,
`parentPath`, `appendRaw` and upper-casing are then statements about token lists (`joinT`).
-/
namespace Op2.Path
open Op2

/-- `sepCat r`: every token preceded by `/`; `joinT ts`: the tokens joined by single `/`, the generic string of a
    relative path with these elements (`elems_joinT`, `genericString_joinT`) -/
def sepCat : List Bytes → Bytes
  | [] => []
  | t :: r => sep :: (t ++ sepCat r)

def joinT : List Bytes → Bytes
  | [] => []
  | t :: r => t ++ sepCat r

theorem toks_ne_nil_of_cur (s : Bytes) : ∀ cur : Bytes, cur ≠ [] → toks s cur ≠ [] := by
  induction s with
  | nil => intro cur h; simp [toks, h]
  | cons c rest ih =>
    intro cur h
    simp only [toks]
    split
    · have : cur.isEmpty = false := by cases cur <;> simp_all
      simp [this]
    · exact ih _ (by simp)

theorem toks_ne_nil_of_rel (s : Bytes) (hr : Rel s) (hs : s ≠ []) : toks s [] ≠ [] := by
  cases s with
  | nil => exact absurd rfl hs
  | cons c rest =>
    have hc : c ≠ sep := by intro h; apply hr; simp [h]
    simp only [toks, if_neg hc]
    exact toks_ne_nil_of_cur _ _ (by simp)

theorem toks_plain (s : Bytes) : ∀ cur : Bytes, sep ∉ cur → ∀ t ∈ toks s cur, Plain t := by
  induction s with
  | nil =>
    intro cur h t ht
    simp only [toks] at ht
    split at ht
    · simp at ht
    · simp only [List.mem_singleton] at ht
      subst ht
      refine ⟨?_, by simpa using h⟩
      cases cur <;> simp_all
  | cons c rest ih =>
    intro cur h t ht
    simp only [toks] at ht
    split at ht
    · split at ht
      · exact ih [] (by simp) t ht
      · simp only [List.mem_cons] at ht
        rcases ht with ht | ht
        · subst ht
          refine ⟨?_, by simpa using h⟩
          cases cur <;> simp_all
        · exact ih [] (by simp) t ht
    · rename_i hc
      apply ih (c :: cur) _ t ht
      simp only [List.mem_cons, not_or]
      exact ⟨fun e => hc e.symm, h⟩

theorem sepCat_append (a b : List Bytes) : sepCat (a ++ b) = sepCat a ++ sepCat b := by
  induction a with
  | nil => rfl
  | cons t r ih => simp [sepCat, ih]

theorem joinT_append_singleton (a : List Bytes) (n : Bytes) (ha : a ≠ []) :
    joinT (a ++ [n]) = joinT a ++ sep :: n := by
  cases a with
  | nil => exact absurd rfl ha
  | cons t r => simp [joinT, sepCat_append, sepCat]

theorem toks_sepCat (r : List Bytes) (hr : ∀ t ∈ r, Plain t) : ∀ (t cur : Bytes), sep ∉ t →
    toks (t ++ sepCat r) cur = (if cur.isEmpty ∧ t = [] then [] else [cur.reverse ++ t]) ++ r := by
  induction r with
  | nil =>
    intro t cur h
    simp only [sepCat, List.append_nil]
    exact toks_nosep t cur h
  | cons u r ih =>
    intro t cur h
    have hu : Plain u := hr u (by simp)
    simp only [sepCat]
    rw [toks_append_sep, toks_nosep t cur h, ih (fun t ht => hr t (by simp [ht])) u [] hu.2]
    simp [hu.1]

theorem toks_joinT (ts : List Bytes) (h : ∀ t ∈ ts, Plain t) : toks (joinT ts) [] = ts := by
  cases ts with
  | nil => rfl
  | cons t r =>
    have ht : Plain t := h t (by simp)
    simp only [joinT]
    rw [toks_sepCat r (fun u hu => h u (by simp [hu])) t [] ht.2]
    simp [ht.1]

theorem or_ne_sep {x y : Option UInt8} (hx : x ≠ some sep) (hy : y ≠ some sep) : x.or y ≠ some sep := by
  cases x <;> simp_all

theorem sepCat_getLast (r : List Bytes) (hr : ∀ t ∈ r, Plain t) : (sepCat r).getLast? ≠ some sep := by
  induction r with
  | nil => simp [sepCat]
  | cons u r ih =>
    have hu : Plain u := hr u (by simp)
    simp only [sepCat]
    have hne : u ++ sepCat r ≠ [] := by simp [hu.1]
    rw [List.getLast?_cons_of_ne_nil hne, List.getLast?_append]
    exact or_ne_sep (ih (fun t ht => hr t (by simp [ht]))) (plain_getLast hu)

theorem joinT_getLast (ts : List Bytes) (h : ∀ t ∈ ts, Plain t) : (joinT ts).getLast? ≠ some sep := by
  cases ts with
  | nil => simp [joinT]
  | cons t r =>
    simp only [joinT, List.getLast?_append]
    exact or_ne_sep (sepCat_getLast r (fun u hu => h u (by simp [hu]))) (plain_getLast (h t (by simp)))

theorem joinT_rel (ts : List Bytes) (h : ∀ t ∈ ts, Plain t) : Rel (joinT ts) := by
  cases ts with
  | nil => simp [joinT, Rel]
  | cons t r =>
    have ht := h t (by simp)
    cases t with
    | nil => exact absurd rfl ht.1
    | cons c t' =>
      simp only [Rel, joinT, List.cons_append, List.head?_cons, ne_eq, Option.some.injEq]
      intro e
      exact ht.2 (by simp [e])

theorem joinT_eq_nil (ts : List Bytes) (h : ∀ t ∈ ts, Plain t) : joinT ts = [] ↔ ts = [] := by
  cases ts with
  | nil => simp [joinT]
  | cons t r => simp [joinT, (h t (by simp)).1]

theorem split_rel_kinds (s : Bytes) (h : Rel s) : ∀ c ∈ split s, c.kind = Kind.file := by
  intro c hc
  rw [split_rel s h, withTrailingDot_eq, List.mem_append] at hc
  rcases hc with hc | hc
  · exact (scan_fresh s 0 0 []).2 c hc
  · split at hc
    · rw [List.mem_singleton.mp hc]
    · cases hc

theorem elems_rel (s : Bytes) (h : Rel s) :
    elems s = toks s [] ++ (if s.getLast? = some sep then [[dot]] else []) := by
  have ⟨ht, hk⟩ := scan_fresh s 0 0 []
  unfold elems
  rw [split_rel s h, withTrailingDot_eq, List.map_append, ht]
  congr 1
  by_cases hl : s.getLast? = some sep
  · -- a non-empty relative path has a component, and `scan` makes only `file` components
    have hs : s ≠ [] := by intro e; rw [e] at hl; cases hl
    have hne : scan s 0 0 [] [] ≠ [] := by
      intro e
      rw [e] at ht
      exact toks_ne_nil_of_rel s h hs ht.symm
    simp [hl, List.getLast?_eq_some_getLast hne, hk _ (List.getLast_mem hne)]
  · simp [hl]

theorem dot_plain : Plain [dot] := by decide

theorem elems_rel_plain (s : Bytes) (h : Rel s) : ∀ t ∈ elems s, Plain t := by
  intro t ht
  rw [elems_rel s h, List.mem_append] at ht
  rcases ht with ht | ht
  · exact toks_plain s [] (by simp) t ht
  · split at ht
    · simp only [List.mem_singleton] at ht
      rw [ht]; exact dot_plain
    · simp at ht

theorem hasRootComponent_rel (s : Bytes) (h : Rel s) : hasRootComponent s = false := by
  have hk : ∀ c ∈ split s, c.kind ≠ Kind.rootName ∧ c.kind ≠ Kind.rootDir := fun c hc => by
    rw [split_rel_kinds s h c hc]; decide
  simp only [hasRootComponent, hasRootName, hasRootDir, Bool.or_eq_false_iff, List.any_eq_false,
    decide_eq_true_eq]
  exact ⟨fun c hc => (hk c hc).1, fun c hc => (hk c hc).2⟩

theorem hasRootComponent_eq_false_iff (s : Bytes) : hasRootComponent s = false ↔ Rel s := by
  constructor
  · intro h
    apply Classical.byContradiction
    intro hn
    obtain ⟨r, rfl⟩ := (not_rel_iff s).mp hn
    obtain ⟨c, cs, e, hk, _⟩ := split_rootHead r
    simp only [hasRootComponent, hasRootName, hasRootDir, e, List.any_cons, Bool.or_eq_false_iff,
      decide_eq_false_iff_not] at h
    rcases hk with hk | hk
    · exact h.1.1 hk
    · exact h.2.1 hk
  · exact hasRootComponent_rel s

theorem filename_eq (s : Bytes) : filename s = ((elems s).getLast?).getD [] := by
  unfold filename elems
  rw [List.getLast?_map]

def gsStep (st : Bytes × Bool) (c : Cmpt) : Bytes × Bool :=
  if c.kind = Kind.rootDir then (st.1 ++ [sep], st.2)
  else ((if st.2 then st.1 ++ [sep] else st.1) ++ c.text, c.kind = Kind.file)

theorem genericString_eq (s : Bytes) : genericString s = ((split s).foldl gsStep ([], false)).1 := rfl

theorem foldl_gsStep_true (cs : List Cmpt) (hk : ∀ c ∈ cs, c.kind = Kind.file) : ∀ acc : Bytes,
    cs.foldl gsStep (acc, true) = (acc ++ sepCat (cs.map (·.text)), true) := by
  induction cs with
  | nil => intro acc; simp [sepCat]
  | cons c r ih =>
    intro acc
    have hc : c.kind = Kind.file := hk c (by simp)
    simp only [List.foldl_cons, gsStep, hc, List.map_cons, sepCat]
    rw [if_neg (by decide)]
    simp only [if_true, decide_true]
    rw [ih (fun c hc => hk c (by simp [hc]))]
    simp

theorem foldl_gsStep_file (cs : List Cmpt) (hk : ∀ c ∈ cs, c.kind = Kind.file) :
    (cs.foldl gsStep ([], false)).1 = joinT (cs.map (·.text)) := by
  cases cs with
  | nil => rfl
  | cons c r =>
    have hc : c.kind = Kind.file := hk c (by simp)
    simp only [List.foldl_cons, gsStep, hc, List.map_cons, joinT]
    rw [if_neg (by decide)]
    simp only [Bool.false_eq_true, if_false, decide_true, List.nil_append]
    rw [foldl_gsStep_true r (fun c hc => hk c (by simp [hc]))]

theorem genericString_rel (s : Bytes) (h : Rel s) : genericString s = joinT (elems s) := by
  rw [genericString_eq, foldl_gsStep_file _ (split_rel_kinds s h)]
  rfl

theorem elems_joinT (ts : List Bytes) (h : ∀ t ∈ ts, Plain t) : elems (joinT ts) = ts := by
  rw [elems_rel _ (joinT_rel ts h), toks_joinT ts h, if_neg (joinT_getLast ts h)]
  simp

theorem genericString_joinT (ts : List Bytes) (h : ∀ t ∈ ts, Plain t) :
    genericString (joinT ts) = joinT ts := by
  rw [genericString_rel _ (joinT_rel ts h), elems_joinT ts h]

theorem appendRaw_nil_left (q : Bytes) : appendRaw [] q = q := by simp [appendRaw]

theorem appendRaw_plain (acc t : Bytes) (h1 : acc ≠ []) (h2 : acc.getLast? ≠ some sep) (ht : Plain t) :
    appendRaw acc t = acc ++ sep :: t := by
  unfold appendRaw
  cases hl : acc.getLast? with
  | none => simp at hl; exact absurd hl h1
  | some l =>
    cases t with
    | nil => exact absurd rfl ht.1
    | cons f t' =>
      have hf : f ≠ sep := by intro e; apply ht.2; simp [e]
      have hl' : l ≠ sep := by intro e; apply h2; rw [hl, e]
      simp [hl', hf]

theorem appendRaw_endsSep (acc t : Bytes) (h : acc.getLast? = some sep) : appendRaw acc t = acc ++ t := by
  unfold appendRaw
  rw [h]
  cases t <;> simp

theorem foldl_appendRaw_acc (ts : List Bytes) (h : ∀ t ∈ ts, Plain t) : ∀ acc : Bytes,
    acc ≠ [] → acc.getLast? ≠ some sep → ts.foldl appendRaw acc = acc ++ sepCat ts := by
  induction ts with
  | nil => intro acc _ _; simp [sepCat]
  | cons t r ih =>
    intro acc h1 h2
    have ht : Plain t := h t (by simp)
    simp only [List.foldl_cons, sepCat]
    rw [appendRaw_plain acc t h1 h2 ht, ih (fun u hu => h u (by simp [hu])) _ (by simp)]
    · simp
    · have : sep :: t ≠ [] := by simp
      rw [List.getLast?_append, List.getLast?_cons_of_ne_nil ht.1]
      exact or_ne_sep (plain_getLast ht) h2

theorem foldl_appendRaw (ts : List Bytes) (h : ∀ t ∈ ts, Plain t) : ts.foldl appendRaw [] = joinT ts := by
  cases ts with
  | nil => rfl
  | cons t r =>
    have ht : Plain t := h t (by simp)
    simp only [List.foldl_cons, appendRaw_nil_left, joinT]
    exact foldl_appendRaw_acc r (fun u hu => h u (by simp [hu])) t ht.1 (plain_getLast ht)

theorem parentPath_rel (s : Bytes) (h : Rel s) : parentPath s = joinT (elems s).dropLast := by
  have hp : ∀ t ∈ (elems s).dropLast, Plain t :=
    fun t ht => elems_rel_plain s h t (List.dropLast_subset _ ht)
  have e : (split s).dropLast.map (·.text) = (elems s).dropLast := by
    unfold elems; rw [List.map_dropLast]
  have hlen : (split s).length = (elems s).length := by unfold elems; simp
  unfold parentPath
  simp only [e, hlen]
  split
  · rename_i hl
    have : (elems s).dropLast = [] := by
      apply List.eq_nil_of_length_eq_zero
      rw [List.length_dropLast]; omega
    rw [this]; rfl
  · exact foldl_appendRaw _ hp

theorem toks_toUpper (s : Bytes) : ∀ cur : Bytes,
    toks (Str.toUpper s) (Str.toUpper cur) = (toks s cur).map Str.toUpper := by
  induction s with
  | nil =>
    intro cur
    rw [toUpper_nil]
    simp only [toks, toUpper_isEmpty]
    split
    · rfl
    · simp [toUpper_reverse]
  | cons c r ih =>
    intro cur
    rw [toUpper_cons]
    simp only [toks, upperB_eq_sep, toUpper_isEmpty]
    split
    · split
      · exact ih []
      · rw [List.map_cons, ← ih [], toUpper_reverse]
        rfl
    · exact ih (c :: cur)

theorem elems_toUpper_rel (s : Bytes) (h : Rel s) : elems (Str.toUpper s) = (elems s).map Str.toUpper := by
  rw [elems_rel _ ((rel_toUpper s).mpr h), elems_rel s h]
  have := toks_toUpper s []
  rw [toUpper_nil] at this
  rw [this, List.map_append]
  congr 1
  have hl := getLast_toUpper_sep s
  by_cases e : s.getLast? = some sep
  · rw [if_pos e, if_pos (hl.mpr e)]; decide
  · rw [if_neg e, if_neg (fun x => e (hl.mp x))]; rfl

theorem pathKey_rel (a : Bytes) (h : Rel a) : pathKey a = stripDots ((elems a).map Str.toUpper) := by
  unfold pathKey; rw [elems_toUpper_rel a h]

theorem pathKey_rel_plain (a : Bytes) (h : Rel a) : ∀ t ∈ pathKey a, Plain t :=
  stripDots_plain _ (elems_rel_plain _ ((rel_toUpper a).mpr h))

theorem pathsAreEqual_of_elems_eq (a b : Bytes) (ha : Rel a) (hb : Rel b) (h : elems a = elems b) :
    pathsAreEqual a b = true := by
  rw [pathsAreEqual_iff, pathKey_rel a ha, pathKey_rel b hb, h]

end Op2.Path
