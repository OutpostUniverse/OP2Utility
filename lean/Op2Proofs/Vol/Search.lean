import Op2Model.Vol
import Op2Proofs.StrOrder
import Op2Proofs.SortLemmas
/-!
The frozen spec's order and its binary-search lookup.  The spec's fold `lowerU` and the library's `lowerI` coincide away
from byte 0xFF, hence so do the orders `ltSpec` / `ltCI` and the folded equalities.  `anyCase mask n` is `n` with any subset
of its letters case-flipped; the lookup finds it where it finds `n` (`lookup_any_case`, used by C01, C02 and `Vol/Lookup.lean`).
-/
namespace Op2.Vol.Spec
open Op2 Op2.Str

theorem lowerU_eq_lowerI (b : UInt8) (h : b ≠ 255) : lowerU b = Str.lowerI b := by
  unfold lowerU Str.lowerI
  split
  · rfl
  · exact (if_neg fun hb => h (UInt8.toNat_inj.mp hb)).symm

theorem ltSpec_eq_ltCI (a c : Bytes) (ha : ∀ x ∈ a, x ≠ 255) (hc : ∀ x ∈ c, x ≠ 255) : ltSpec a c = Str.ltCI a c :=
  ltF_congr lowerU lowerI a c (fun x hx => lowerU_eq_lowerI x (ha x hx)) (fun x hx => lowerU_eq_lowerI x (hc x hx))

theorem eqSpec_eq_eqCI (a c : Bytes) (ha : ∀ x ∈ a, x ≠ 255) (hc : ∀ x ∈ c, x ≠ 255) :
    Str.eqF lowerU a c = Str.eqCI a c :=
  eqF_congr lowerU lowerI a c (fun x hx => lowerU_eq_lowerI x (ha x hx)) (fun x hx => lowerU_eq_lowerI x (hc x hx))

theorem increasing_pairwise : ∀ (l : List Bytes), increasing l = true → l.Pairwise (fun a b => ltSpec a b = true)
  | [], _ => List.Pairwise.nil
  | [_], _ => List.pairwise_singleton _ _
  | a :: b :: r, h => by
    simp only [increasing, Bool.and_eq_true] at h
    have ih := increasing_pairwise (b :: r) h.2
    rw [List.pairwise_cons]
    refine ⟨?_, ih⟩
    intro c hc
    rcases List.mem_cons.mp hc with rfl | hc
    · exact h.1
    · exact ltF_trans lowerU a b c h.1 ((List.pairwise_cons.mp ih).1 c hc)

theorem pairwise_increasing : ∀ (l : List Bytes), l.Pairwise (fun a b => ltSpec a b = true) → increasing l = true
  | [], _ => rfl
  | [_], _ => rfl
  | a :: b :: r, h => by
    rw [List.pairwise_cons] at h
    simp only [increasing, Bool.and_eq_true]
    exact ⟨h.1 b (List.mem_cons_self ..), pairwise_increasing (b :: r) h.2⟩

theorem increasing_iff_pairwise (l : List Bytes) : increasing l = true ↔ l.Pairwise (fun a b => ltSpec a b = true) :=
  ⟨increasing_pairwise l, pairwise_increasing l⟩

theorem increasing_of_sortedS (l : List Bytes) (h : Str.SortedS id l) (h255 : ∀ n ∈ l, ∀ x ∈ n, x ≠ 255) :
    increasing l = true := by
  apply pairwise_increasing
  unfold SortedS at h
  refine List.Pairwise.imp_of_mem ?_ h
  intro a b ha hb hab
  rw [ltSpec_eq_ltCI a b (h255 a ha) (h255 b hb)]
  exact hab

theorem bsearch_sound (lt : Bytes → Bytes → Bool) (names : List Bytes) (x : Bytes) :
    ∀ fuel lo hi' i, bsearch lt names x fuel lo hi' = some i →
      ∃ h : i < names.length, lt x names[i] = false ∧ lt names[i] x = false ∧ lo ≤ i ∧ i < hi' := by
  intro fuel
  induction fuel with
  | zero => intro lo hi' i h; simp [bsearch] at h
  | succ fuel ih =>
    intro lo hi' i h
    simp only [bsearch] at h
    split at h
    · exact absurd h (by simp)
    · rename_i hlo
      split at h
      · exact absurd h (by simp)
      · rename_i n hn
        have ⟨hm, hn'⟩ := List.getElem?_eq_some_iff.mp hn
        split at h
        · have ⟨a, b, c, d, e⟩ := ih _ _ _ h
          exact ⟨a, b, c, d, by omega⟩
        · rename_i hl1
          split at h
          · have ⟨a, b, c, d, e⟩ := ih _ _ _ h
            exact ⟨a, b, c, by omega, e⟩
          · rename_i hl2
            have hi : (lo + hi') / 2 = i := by simpa using h
            subst hi
            refine ⟨hm, ?_, ?_, by omega, by omega⟩
            · rw [hn']; simpa using hl1
            · rw [hn']; simpa using hl2

/-- everything left of `i` is below `x`, everything right of it above, so the search interval always contains `i` -/
theorem bsearch_finds_sorted (lt : Bytes → Bytes → Bool)
    (htrans : ∀ a b c, lt a b = true → lt b c = true → lt a c = true) (hirr : ∀ a, lt a a = false)
    (hleft : ∀ a b c, lt a b = true → lt a c = false → lt c a = false → lt c b = true)
    (hright : ∀ a b c, lt a b = true → lt b c = false → lt c b = false → lt a c = true)
    (names : List Bytes) (hs : names.Pairwise (fun a b => lt a b = true))
    (x : Bytes) (i : Nat) (hi : i < names.length)
    (hx1 : lt x names[i] = false) (hx2 : lt names[i] x = false) :
    bsearch lt names x (names.length + 1) 0 names.length = some i := by
  rw [List.pairwise_iff_getElem] at hs
  have hcomp : ∀ j (hj : j < names.length), j < i → lt names[j] x = true :=
    fun j hj hji => hright _ _ _ (hs j i hj hi hji) hx2 hx1
  have hcomp2 : ∀ j (hj : j < names.length), i < j → lt x names[j] = true :=
    fun j hj hij => hleft _ _ _ (hs i j hi hj hij) hx2 hx1
  suffices ∀ fuel lo hi', lo ≤ i → i < hi' → hi' ≤ names.length → hi' - lo < fuel →
      bsearch lt names x fuel lo hi' = some i from this _ _ _ (Nat.zero_le _) hi (Nat.le_refl _) (by omega)
  intro fuel
  induction fuel with
  | zero => intro lo hi' _ _ _ h; omega
  | succ fuel ih =>
    intro lo hi' h1 h2 h3 h4
    have hmid : (lo + hi') / 2 < names.length := by omega
    simp only [bsearch]
    rw [if_neg (by omega), List.getElem?_eq_getElem hmid]
    simp only []
    rcases Nat.lt_trichotomy ((lo + hi') / 2) i with hlt | heq | hgt
    · have a := hcomp _ hmid hlt
      have b : lt x names[(lo + hi') / 2] = false := by
        cases hb : lt x names[(lo + hi') / 2]
        · rfl
        · have := htrans _ _ _ hb a
          rw [hirr] at this; exact absurd this (by simp)
      rw [b, a]
      simp only [Bool.false_eq_true, if_false, if_true]
      exact ih ((lo + hi') / 2 + 1) hi' (by omega) h2 h3 (by omega)
    · have e : names[(lo + hi') / 2] = names[i] := by simp only [heq]
      rw [e, hx1, hx2]
      simp only [Bool.false_eq_true, if_false, heq]
    · rw [hcomp2 _ hmid hgt]
      simp only [if_true]
      exact ih lo ((lo + hi') / 2) h1 hgt (by omega) (by omega)

theorem lookup_finds (names : List Bytes) (hs : increasing names = true) (i : Nat) (hi : i < names.length)
    (x : Bytes) (hx : Str.eqF lowerU x names[i] = true) : lookup names x = some i := by
  have hinc := (incomp_iff_eqF lowerU x names[i]).mpr hx
  unfold lookup
  refine bsearch_finds_sorted ltSpec (ltF_trans lowerU) (ltF_irrefl lowerU) ?_ ?_ names (increasing_pairwise names hs)
    x i hi hinc.1 hinc.2
  · intro a b c hab h1 h2
    exact ltF_of_eqF_left lowerU a b c hab ((incomp_iff_eqF lowerU a c).mp ⟨h1, h2⟩)
  · intro a b c hab h1 h2
    exact ltF_of_eqF_right lowerU a b c hab ((incomp_iff_eqF lowerU b c).mp ⟨h1, h2⟩)

theorem lookup_finds_self (names : List Bytes) (hs : increasing names = true) (i : Nat) (hi : i < names.length) :
    lookup names names[i] = some i :=
  lookup_finds names hs i hi names[i] (eqF_refl lowerU _)

theorem lookup_sound (names : List Bytes) (x : Bytes) (i : Nat) (h : lookup names x = some i) :
    ∃ hi : i < names.length, Str.eqF lowerU x names[i] = true := by
  have ⟨hi, a, b, _, _⟩ := bsearch_sound ltSpec names x _ _ _ _ h
  exact ⟨hi, (incomp_iff_eqF lowerU x names[i]).mp ⟨a, b⟩⟩

theorem lookup_eq_some_iff (names : List Bytes) (hs : increasing names = true) (x : Bytes) (i : Nat) :
    lookup names x = some i ↔ ∃ hi : i < names.length, Str.eqF lowerU x names[i] = true :=
  ⟨lookup_sound names x i, fun ⟨hi, hx⟩ => lookup_finds names hs i hi x hx⟩

theorem lookup_eq_none_iff (names : List Bytes) (hs : increasing names = true) (x : Bytes) :
    lookup names x = none ↔ ∀ n ∈ names, Str.eqF lowerU x n = false := by
  constructor
  · intro h n hn
    have ⟨i, hi, e⟩ := List.getElem_of_mem hn
    cases hx : eqF lowerU x n
    · rfl
    · subst e
      rw [lookup_finds names hs i hi x hx] at h
      exact absurd h (by simp)
  · intro h
    cases hl : lookup names x with
    | none => rfl
    | some i =>
      have ⟨hi, e⟩ := lookup_sound names x i hl
      rw [h _ (List.getElem_mem hi)] at e
      exact absurd e (by simp)

def flipCase (b : UInt8) : UInt8 :=
  if 65 ≤ b.toNat ∧ b.toNat ≤ 90 then UInt8.ofNat (b.toNat + 32)
  else if 97 ≤ b.toNat ∧ b.toNat ≤ 122 then UInt8.ofNat (b.toNat - 32)
  else b

theorem flipCase_cases (b : UInt8) :
    (65 ≤ b.toNat ∧ b.toNat ≤ 90 ∧ (flipCase b).toNat = b.toNat + 32) ∨
    (97 ≤ b.toNat ∧ b.toNat ≤ 122 ∧ (flipCase b).toNat + 32 = b.toNat) ∨
    (¬ (65 ≤ b.toNat ∧ b.toNat ≤ 90) ∧ ¬ (97 ≤ b.toNat ∧ b.toNat ≤ 122) ∧ flipCase b = b) := by
  have := b.toNat_lt
  unfold flipCase
  split
  · rename_i h; exact .inl ⟨h.1, h.2, by rw [UInt8.toNat_ofNat']; omega⟩
  · rename_i h
    split
    · rename_i h2; exact .inr (.inl ⟨h2.1, h2.2, by rw [UInt8.toNat_ofNat']; omega⟩)
    · rename_i h2; exact .inr (.inr ⟨h, h2, rfl⟩)

theorem lowerU_cases (b : UInt8) :
    (65 ≤ b.toNat ∧ b.toNat ≤ 90 ∧ lowerU b = b.toNat + 32) ∨ (¬ (65 ≤ b.toNat ∧ b.toNat ≤ 90) ∧ lowerU b = b.toNat) := by
  unfold lowerU
  split
  · rename_i h; exact .inl ⟨h.1, h.2, by simp⟩
  · rename_i h; exact .inr ⟨h, rfl⟩

theorem lowerU_flipCase (b : UInt8) : lowerU (flipCase b) = lowerU b := by
  have := lowerU_cases b
  have := lowerU_cases (flipCase b)
  rcases flipCase_cases b with _ | _ | ⟨_, _, h⟩
  · omega
  · omega
  · rw [h]

/-- `n` with the case of the letters selected by `mask` swapped (positions beyond the mask unchanged) -/
def anyCase (mask : List Bool) (n : Bytes) : Bytes :=
  List.zipWith (fun m b => if m then flipCase b else b) (mask ++ List.replicate n.length false) n

theorem anyCase_length (mask : List Bool) (n : Bytes) : (anyCase mask n).length = n.length := by
  unfold anyCase
  rw [List.length_zipWith, List.length_append, List.length_replicate]
  omega

theorem eqF_anyCase (f : UInt8 → Int) (hf : ∀ b, f (flipCase b) = f b) (mask : List Bool) (n : Bytes) :
    Str.eqF f (anyCase mask n) n = true := by
  have key : ∀ (ms : List Bool) (n : Bytes),
      (List.zipWith (fun m b => if m then flipCase b else b) (ms ++ List.replicate n.length false) n).map f = n.map f := by
    intro ms n
    induction n generalizing ms with
    | nil => simp
    | cons b n ih =>
      cases ms with
      | nil =>
        have := ih []
        simp only [List.nil_append] at this
        simp [List.replicate_succ, this]
      | cons m ms =>
        have := ih (ms ++ [false])
        rw [List.append_assoc, List.singleton_append, ← List.replicate_succ] at this
        cases m <;> simp [hf, this]
  exact (eqF_iff_map f _ _).mpr (key mask n)

theorem lookup_any_case (names : List Bytes) (hs : increasing names = true) (i : Nat) (hi : i < names.length)
    (mask : List Bool) : lookup names (anyCase mask names[i]) = some i :=
  lookup_finds names hs i hi _ (eqF_anyCase lowerU lowerU_flipCase mask names[i])

example : increasing [[65], [98], [67, 49]] = true := by decide
example : lookup [[65], [98], [67, 49]] [99, 49] = some 2 := by decide
example : lookup [[65], [98], [67, 49]] [66] = some 1 := by decide
example : lookup [[65], [98], [67, 49]] [100] = none := by decide
example : anyCase [true, false, true] [97, 98, 67, 49] = [65, 98, 99, 49] := by decide
example : lookup [[65], [98], [67, 49]] (anyCase [true, true] [67, 49]) = some 2 :=
  lookup_any_case [[65], [98], [67, 49]] (by decide) 2 (by decide) [true, true]
/-- the two folds differ at 0xFF, so the side condition of `lowerU_eq_lowerI` is needed -/
example : lowerU 255 ≠ Str.lowerI 255 := by decide

end Op2.Vol.Spec
