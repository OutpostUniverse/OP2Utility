import Op2Proofs.Vol.Chain
import Op2Proofs.Word
import Op2Proofs.Stream.Writer
/-!
The 32/64-bit layout arithmetic of `PrepareHeader` against the declarative layout of the format: each of its two loops
succeeds exactly when the declarative quantities fit their fields (`prepLoop_eq_ok`, `offLoop_eq_ok`), and returns the
declarative values then.  `wf_iff`, `strict_iff`: the Boolean tests `Spec.Desc.wf` / `.strict` as propositions.
-/
namespace Op2.Vol
open Op2 Op2.Except

theorem le_pad4 (n : Nat) : n ≤ Spec.pad4 n := by unfold Spec.pad4; omega

/-- `(x + 3) & ~3` is `x` rounded up to a multiple of four, as long as nothing wraps -/
theorem mask32_pad4 (x : Nat) (h : x + 3 < 4294967296) : mask32 (u32 (x + 3)) = Spec.pad4 x := by
  rw [u32_of_lt h]; exact and_mask32 _ h

theorem mask64_pad4 (x : Nat) (h : x + 3 < 18446744073709551616) : mask64 (u64 (x + 3)) = Spec.pad4 x := by
  rw [u64_of_lt h]; exact and_mask64 _ h

theorem memberOk_iff (m : Spec.Member) : Spec.memberOk m = true ↔
    0 ∉ m.name ∧ m.payload.length < 2147483648 ∧ m.size < 4294967296 ∧ m.comp < 65536 := by
  simp only [Spec.memberOk, List.contains_eq_mem, Bool.and_eq_true, Bool.not_eq_eq_eq_not, Bool.not_true,
    decide_eq_false_iff_not, decide_eq_true_eq, and_assoc]

theorem wf_iff (d : Spec.Desc) : d.WF ↔
    (∀ m ∈ d.members, Spec.memberOk m = true) ∧ Spec.headerLen d < 2147483648 ∧
    Spec.offsetsOk (Spec.headerLen d) d.members = true ∧ (d.slack < 14 ∨ 0 < d.unused) := by
  simp only [Spec.Desc.WF, Spec.Desc.wf, Bool.and_eq_true, Bool.or_eq_true, decide_eq_true_eq, List.all_eq_true, and_assoc]

theorem strict_iff (d : Spec.Desc) : d.Strict ↔
    d.WF ∧ d.unused = 0 ∧ d.slack = 0 ∧ (∀ m ∈ d.members, m.comp = 256 ∧ m.size = m.payload.length) ∧
    Spec.increasing (d.members.map (·.name)) = true := by
  simp only [Spec.Desc.Strict, Spec.Desc.strict, Spec.Desc.WF, Bool.and_eq_true, decide_eq_true_eq, List.all_eq_true,
    and_assoc]

theorem Strict.wf {d : Spec.Desc} (h : d.Strict) : d.WF := ((strict_iff d).mp h).1

theorem Content.toBytes_length (c : Content) : c.toBytes.length = c.len := by
  cases c <;> simp [Content.toBytes, Content.len, Op2.zeros]

theorem copyAll_eq (c : Content) : copyAll c = c.toBytes := by
  unfold copyAll
  have := Stream.copy_spec copyChunk (by decide) (c.len + 1) { data := c.toBytes, pos := 0 } []
    (by simp) (by simp [Content.toBytes_length])
  rw [this]; simp

/-! smart unfolding off: see `Vol/Reader.lean` -/
section
set_option smartUnfolding false

theorem prepLoop_cons (f : InFile) (fs : List InFile) (stl : Nat) : prepLoop (f :: fs) stl =
    if f.content.len > int32Max then .error .refused
    else if stl + (nameOf f).length + 1 > uint32Max then .error .refused
    else prepLoop fs (u32 (stl + u32 (nameOf f).length + 1)) >>= fun r =>
      .ok ({ nameOff := stl, dataOff := 0, size := f.content.len, comp := uncompressed } :: r.1, r.2) := rfl

theorem offLoop_cons (po ps : Nat) (e : Entry) (es : List Entry) : offLoop po ps (e :: es) =
    if mask64 (u64 (po + ps + blockPad)) > uint32Max then .error .refused
    else offLoop (u32 (mask64 (u64 (po + ps + blockPad)))) e.size es >>= fun r =>
      .ok ({ e with dataOff := u32 (mask64 (u64 (po + ps + blockPad))) } :: r) := rfl

theorem assignOffsets_cons (first : Nat) (e : Entry) (es : List Entry) : assignOffsets first (e :: es) =
    offLoop first e.size es >>= fun r => .ok ({ e with dataOff := first } :: r) := rfl

end

def tableLen (l : List InFile) : Nat := (l.map (fun f => (nameOf f).length + 1)).sum

def mkEntries : List InFile → Nat → List Entry
  | [], _ => []
  | f :: fs, stl =>
    { nameOff := stl, dataOff := 0, size := f.content.len, comp := uncompressed } :: mkEntries fs (stl + (nameOf f).length + 1)

def allSmall (l : List InFile) : Prop := ∀ f ∈ l, f.content.len ≤ int32Max

theorem tableLen_cons (f : InFile) (fs : List InFile) : tableLen (f :: fs) = (nameOf f).length + 1 + tableLen fs := rfl

theorem prepLoop_refuses : ∀ (l : List InFile) (stl : Nat), Refuses (prepLoop l stl)
  | [], _ => .ok _
  | _ :: fs, _ => prepLoop_cons .. ▸ .refuse (.refuse (.bind (prepLoop_refuses fs _) fun _ => .ok _))

theorem prepLoop_eq_ok : ∀ (l : List InFile) (stl : Nat) (r : List Entry × Nat), stl ≤ uint32Max →
    (prepLoop l stl = .ok r ↔ allSmall l ∧ stl + tableLen l ≤ uint32Max ∧ r = (mkEntries l stl, stl + tableLen l))
  | [], stl, r, hs => by
    simp only [prepLoop, Except.ok.injEq, allSmall, List.not_mem_nil, false_imp_iff, implies_true, tableLen, List.map_nil,
      List.sum_nil, Nat.add_zero, mkEntries, true_and, hs, eq_comm]
  | f :: fs, stl, r, hs => by
    have e1 : stl + (nameOf f).length + 1 ≤ uint32Max →
        u32 (stl + u32 (nameOf f).length + 1) = stl + (nameOf f).length + 1 := by
      simp only [u32, W32, uint32Max] at *; omega
    simp only [prepLoop_cons, refuse_eq_ok, bind_eq_ok, Except.ok.injEq, Nat.not_lt, allSmall, List.forall_mem_cons,
      tableLen_cons, mkEntries]
    constructor
    · rintro ⟨h1, h2, r', hp, rfl⟩
      rw [e1 h2] at hp
      obtain ⟨ha, hb, rfl⟩ := (prepLoop_eq_ok fs _ r' h2).mp hp
      exact ⟨⟨h1, ha⟩, by omega, by simp only [Nat.add_assoc]⟩
    · rintro ⟨⟨h1, ha⟩, hb, rfl⟩
      have h2 : stl + (nameOf f).length + 1 ≤ uint32Max := by omega
      refine ⟨h1, h2, (mkEntries fs (stl + (nameOf f).length + 1), stl + (nameOf f).length + 1 + tableLen fs), ?_, ?_⟩
      · rw [e1 h2]; exact (prepLoop_eq_ok fs _ _ h2).mpr ⟨ha, by omega, rfl⟩
      · simp only [Nat.add_assoc]

theorem prepLoop_big : ∀ (l : List InFile) (stl : Nat), (∃ f ∈ l, f.content.len > int32Max) →
    prepLoop l stl = .error .refused
  | [], _, h => by simp at h
  | f :: fs, stl, h => by
    simp only [prepLoop]
    by_cases h1 : f.content.len > int32Max
    · rw [if_pos h1]
    · rw [if_neg h1]
      split
      · rfl
      · obtain ⟨g, hg, hgl⟩ := h
        rcases List.mem_cons.mp hg with rfl | hg
        · exact absurd hgl h1
        · rw [prepLoop_big fs _ ⟨g, hg, hgl⟩]

theorem mkEntries_length : ∀ (l : List InFile) (stl : Nat), (mkEntries l stl).length = l.length
  | [], _ => rfl
  | _ :: fs, stl => by simp [mkEntries, mkEntries_length fs]

def mkOffsets : Nat → List Entry → List Entry
  | _, [] => []
  | off, e :: es => { e with dataOff := off } :: mkOffsets (off + 8 + Spec.pad4 e.size) es

def offsFit : Nat → List Entry → Prop
  | _, [] => True
  | off, e :: es => off ≤ uint32Max ∧ offsFit (off + 8 + Spec.pad4 e.size) es

def sizesSmall (es : List Entry) : Prop := ∀ e ∈ es, e.size ≤ int32Max

/-- `(prev.offset + prev.size + 11) & ~3` is the end of the previous block: header, payload, padding -/
theorem next_off (po ps : Nat) (h4 : po % 4 = 0) (hpo : po ≤ uint32Max) (hps : ps ≤ int32Max) :
    mask64 (u64 (po + ps + blockPad)) = po + 8 + Spec.pad4 ps := by
  have e : po + ps + blockPad = po + 8 + ps + 3 := by simp only [blockPad]; omega
  rw [e, mask64_pad4 _ (by simp only [uint32Max, int32Max] at *; omega)]
  simp only [Spec.pad4]; omega

theorem offLoop_refuses : ∀ (es : List Entry) (po ps : Nat), Refuses (offLoop po ps es)
  | [], _, _ => .ok _
  | _ :: es, _, _ => offLoop_cons .. ▸ .refuse (.bind (offLoop_refuses es _ _) fun _ => .ok _)

theorem offLoop_eq_ok : ∀ (es : List Entry) (po ps : Nat) (r : List Entry), po % 4 = 0 → po ≤ uint32Max → ps ≤ int32Max →
    sizesSmall es →
    (offLoop po ps es = .ok r ↔ offsFit (po + 8 + Spec.pad4 ps) es ∧ r = mkOffsets (po + 8 + Spec.pad4 ps) es)
  | [], _, _, r, _, _, _, _ => by
    simp only [offLoop, Except.ok.injEq, offsFit, mkOffsets, true_and, eq_comm]
  | e :: es, po, ps, r, h4, hpo, hps, hs => by
    have e1 : po + 8 + Spec.pad4 ps ≤ uint32Max → u32 (po + 8 + Spec.pad4 ps) = po + 8 + Spec.pad4 ps :=
      fun h => u32_of_lt (by simp only [uint32Max, W32] at *; omega)
    have ih := fun h r' => offLoop_eq_ok es (po + 8 + Spec.pad4 ps) e.size r' (by simp only [Spec.pad4]; omega) h
      (hs e (List.mem_cons_self ..)) (fun x hx => hs x (List.mem_cons_of_mem _ hx))
    simp only [offLoop_cons, next_off po ps h4 hpo hps, refuse_eq_ok, bind_eq_ok, Except.ok.injEq, Nat.not_lt, offsFit,
      mkOffsets]
    constructor
    · rintro ⟨h1, r', hp, rfl⟩
      rw [e1 h1] at hp ⊢
      obtain ⟨hf, rfl⟩ := (ih h1 r').mp hp
      exact ⟨⟨h1, hf⟩, rfl⟩
    · rintro ⟨⟨h1, hf⟩, rfl⟩
      refine ⟨h1, mkOffsets (po + 8 + Spec.pad4 ps + 8 + Spec.pad4 e.size) es, ?_, ?_⟩ <;> rw [e1 h1]
      exact (ih h1 _).mpr ⟨hf, rfl⟩

theorem assignOffsets_refuses (first : Nat) : ∀ es : List Entry, Refuses (assignOffsets first es)
  | [] => .ok _
  | _ :: es => assignOffsets_cons .. ▸ .bind (offLoop_refuses es _ _) fun _ => .ok _

theorem assignOffsets_eq_ok (first : Nat) (es r : List Entry) (h4 : first % 4 = 0) (hf : first ≤ uint32Max)
    (hs : sizesSmall es) :
    assignOffsets first es = .ok r ↔ offsFit first es ∧ r = mkOffsets first es := by
  cases es with
  | nil => simp only [assignOffsets, Except.ok.injEq, offsFit, mkOffsets, true_and, eq_comm]
  | cons e es =>
    simp only [assignOffsets_cons, bind_eq_ok, Except.ok.injEq, offsFit, mkOffsets, hf, true_and,
      offLoop_eq_ok es first e.size _ h4 hf (hs e (List.mem_cons_self ..)) (fun x hx => hs x (List.mem_cons_of_mem _ hx))]
    constructor
    · rintro ⟨_, ⟨h, rfl⟩, rfl⟩; exact ⟨h, rfl⟩
    · rintro ⟨h, rfl⟩; exact ⟨_, ⟨h, rfl⟩, rfl⟩

theorem mkEntries_sizesSmall : ∀ (l : List InFile) (stl : Nat), allSmall l → sizesSmall (mkEntries l stl)
  | [], _, _ => by simp [mkEntries, sizesSmall]
  | f :: fs, stl, h => by
    intro e he
    simp only [mkEntries, List.mem_cons] at he
    rcases he with rfl | he
    · exact h f (by simp)
    · exact mkEntries_sizesSmall fs _ (fun g hg => h g (by simp [hg])) e he

end Op2.Vol
