import Op2Proofs.Vol.Layout
import Op2Proofs.SortLemmas
/-!
`create_eq_ok`: while the header stays below 2 GiB, `create` succeeds exactly on `Good` inputs and writes the reference
encoding of their description; `create_refuses`: whatever it does not write it refuses.
-/
namespace Op2.Vol
open Op2 Op2.Str Op2.Except

def memberOf (f : InFile) : Spec.Member :=
  { name := nameOf f, payload := f.content.toBytes, size := f.content.len, comp := uncompressed }
def descOf (l : List InFile) : Spec.Desc := { members := l.map memberOf, unused := 0, slack := 0 }

theorem descOf_names (l : List InFile) : (descOf l).members.map (·.name) = l.map nameOf := by
  simp only [descOf, List.map_map]; rfl

theorem nameTable_length (l : List InFile) : (Spec.nameTable (l.map memberOf)).length = tableLen l := by
  simp only [Spec.nameTable, tableLen, List.length_flatMap, List.map_map, List.length_append, List.length_singleton]
  rfl

theorem volsLen_descOf (l : List InFile) : Spec.volsLen (descOf l) = Spec.pad4 (4 + tableLen l) := by
  simp only [Spec.volsLen, descOf, nameTable_length]

theorem voliLen_descOf (l : List InFile) : Spec.voliLen (descOf l) = 14 * l.length := by
  simp only [Spec.voliLen, descOf, List.length_map, Nat.add_zero]

theorem headerLen_descOf (l : List InFile) :
    Spec.headerLen (descOf l) = 32 + Spec.pad4 (4 + tableLen l) + Spec.pad4 (14 * l.length) := by
  simp only [Spec.headerLen, volsLen_descOf, voliLen_descOf]
  omega

/-- what `plan` computes on a sorted list when nothing wraps -/
def planOf (l : List InFile) : Plan :=
  { files := l, names := l.map nameOf, stl := tableLen l, itl := 14 * l.length,
    paddedS := Spec.pad4 (4 + tableLen l), paddedI := Spec.pad4 (14 * l.length),
    entries := mkOffsets (Spec.headerLen (descOf l)) (mkEntries l 0) }

/-- everything `CreateArchive` requires of the sorted inputs -/
structure Good (out : Bytes) (l : List InFile) : Prop where
  nodup : Str.hasAdjacentDup (l.map nameOf) = false
  small : allSmall l
  header : Spec.headerLen (descOf l) < 2147483648
  fit : offsFit (Spec.headerLen (descOf l)) (mkEntries l 0)
  notSelf : l.any (fun f => Path.pathsAreEqual out f.path) = false
  outNonempty : out.isEmpty = false

/-! The 32-bit formulas of `PrepareHeader` on a header below 2 GiB: `T` the name-table length, `n` the member count,
    `S`, `I` the padded section lengths. -/
section arith
variable {T n S I : Nat} (hS : 4 + T ≤ S) (hI : 14 * n ≤ I) (h : 32 + S + I < 2147483648)
include hS hI h

theorem ar_cnt : ¬ n * entrySize > uint32Max := by
  simp only [entrySize, uint32Max]; omega
theorem ar_itl : u32 (u32 n * entrySize) = 14 * n := by
  simp only [entrySize, u32, W32]; omega
theorem ar_first : u32 (S + I + firstBlockExtra) = 32 + S + I := by
  simp only [firstBlockExtra, u32, W32]; omega
theorem ar_hl : u32 (S + I + headerExtra) = 32 + S + I - 8 := by
  simp only [headerExtra, u32, W32]; omega
theorem ar_zerosS : u32 (W32 + S - u32 (T + 4)) = S - 4 - T := by
  simp only [u32, W32]; omega
theorem ar_zerosI : u32 (W32 + I - 14 * n) = I - 14 * n := by
  simp only [u32, W32]; omega
end arith

theorem ar_paddedS {T : Nat} (h : T + 7 < 4294967296) : mask32 (u32 (T + namePad)) = Spec.pad4 (4 + T) := by
  rw [show T + namePad = 4 + T + 3 by simp only [namePad]; omega, mask32_pad4 _ (by omega)]

theorem ar_paddedI {n : Nat} (h : 14 * n + 3 < 4294967296) : mask32 (u32 (14 * n + indexPad)) = Spec.pad4 (14 * n) :=
  mask32_pad4 _ h

theorem headerLen_mod4 (l : List InFile) : Spec.headerLen (descOf l) % 4 = 0 := by
  rw [headerLen_descOf]; simp only [Spec.pad4]; omega

-- see `Vol/Reader.lean`
set_option smartUnfolding false in
theorem plan_eq (out : Bytes) (files : List InFile) : plan out files =
    if hasAdjacentDup ((sortCI nameOf files).map nameOf) then .error .refused else
    prepLoop (sortCI nameOf files) 0 >>= fun r =>
    if (sortCI nameOf files).length * entrySize > uint32Max then .error .refused else
    assignOffsets (u32 (mask32 (u32 (r.2 + namePad))
      + mask32 (u32 (u32 (u32 (sortCI nameOf files).length * entrySize) + indexPad)) + firstBlockExtra)) r.1 >>= fun es =>
    if (sortCI nameOf files).any (fun f => Path.pathsAreEqual out f.path) then .error .refused
    else if out.isEmpty then .error .refused
    else .ok { files := sortCI nameOf files, names := (sortCI nameOf files).map nameOf, stl := r.2,
               itl := u32 (u32 (sortCI nameOf files).length * entrySize), paddedS := mask32 (u32 (r.2 + namePad)),
               paddedI := mask32 (u32 (u32 (u32 (sortCI nameOf files).length * entrySize) + indexPad)), entries := es } := rfl

theorem plan_refuses (out : Bytes) (files : List InFile) : Refuses (plan out files) := by
  rw [plan_eq]
  exact .refuse <| .bind (prepLoop_refuses _ _) fun _ => .refuse <| .bind (assignOffsets_refuses _ _) fun _ =>
    .refuse <| .refuse <| .ok _

theorem plan_congr (out : Bytes) (files files' : List InFile) (h : sortCI nameOf files = sortCI nameOf files') :
    plan out files = plan out files' := by
  rw [plan_eq, plan_eq, h]

theorem plan_ok_basic {out : Bytes} {files : List InFile} {p : Plan} (h : plan out files = .ok p) :
    hasAdjacentDup ((sortCI nameOf files).map nameOf) = false ∧ allSmall (sortCI nameOf files) ∧
    (sortCI nameOf files).any (fun f => Path.pathsAreEqual out f.path) = false ∧ out.isEmpty = false := by
  simp only [plan_eq, bind_eq_ok, refuse_eq_ok, Bool.not_eq_true] at h
  obtain ⟨hdup, r, hprep, -, -, -, hself, hout, -⟩ := h
  exact ⟨hdup, ((prepLoop_eq_ok _ 0 r (by decide)).mp hprep).1, hself, hout⟩

/-- while the header stays below 2 GiB nothing in `plan` wraps -/
theorem plan_eq_ok {out : Bytes} {files : List InFile} {p : Plan}
    (hH : Spec.headerLen (descOf (sortCI nameOf files)) < 2147483648) :
    plan out files = .ok p ↔ Good out (sortCI nameOf files) ∧ planOf (sortCI nameOf files) = p := by
  have hH' := hH
  rw [headerLen_descOf] at hH'
  have hS := le_pad4 (4 + tableLen (sortCI nameOf files))
  have hI := le_pad4 (14 * (sortCI nameOf files).length)
  have hps := ar_paddedS (T := tableLen (sortCI nameOf files)) (by omega)
  have hpi := ar_paddedI (n := (sortCI nameOf files).length) (by omega)
  have hoffs := fun hsmall es => assignOffsets_eq_ok (Spec.headerLen (descOf (sortCI nameOf files)))
    (mkEntries (sortCI nameOf files) 0) es (headerLen_mod4 _) (by simp only [uint32Max]; omega)
    (mkEntries_sizesSmall _ _ hsmall)
  simp only [plan_eq, bind_eq_ok, refuse_eq_ok, prepLoop_eq_ok _ 0 _ (by decide), Nat.zero_add, Bool.not_eq_true,
    Except.ok.injEq]
  constructor
  · rintro ⟨hdup, _, ⟨hsmall, -, rfl⟩, -, es, hoff, hself, hout, rfl⟩
    simp only [ar_itl hS hI hH', hps, hpi, ar_first hS hI hH', ← headerLen_descOf] at hoff ⊢
    obtain ⟨hfit, rfl⟩ := (hoffs hsmall es).mp hoff
    exact ⟨⟨hdup, hsmall, hH, hfit, hself, hout⟩, rfl⟩
  · rintro ⟨g, rfl⟩
    refine ⟨g.nodup, _, ⟨g.small, by simp only [uint32Max]; omega, rfl⟩, ar_cnt hS hI hH', ?_⟩
    simp only [ar_itl hS hI hH', hps, hpi, ar_first hS hI hH', ← headerLen_descOf]
    exact ⟨_, (hoffs g.small _).mpr ⟨g.fit, rfl⟩, g.notSelf, g.outNonempty, rfl⟩

theorem sec_eq_spec (tag : Bytes) (len : Nat) (h : len < 2147483648) : sec tag len = Spec.sec tag len := by
  unfold sec Spec.sec padFlag
  rw [Nat.mod_eq_of_lt h]

theorem entries_eq_spec : ∀ (l : List InFile) (stl off : Nat),
    (mkOffsets off (mkEntries l stl)).flatMap encEntry = Spec.entries stl off (l.map memberOf)
  | [], _, _ => rfl
  | f :: fs, stl, off => by
    simp only [mkEntries, mkOffsets, List.flatMap_cons, List.map_cons, Spec.entries]
    rw [entries_eq_spec fs]
    simp only [encEntry, memberOf, Spec.blockLen, Content.toBytes_length, List.append_assoc]
    congr 5
    omega

theorem writeFiles_eq_blocks : ∀ (l : List InFile) (stl off : Nat), allSmall l →
    writeFiles l (mkOffsets off (mkEntries l stl)) = (l.map memberOf).flatMap Spec.block
  | [], _, _, _ => rfl
  | f :: fs, stl, off, hs => by
    simp only [mkEntries, mkOffsets, writeFiles, List.map_cons, List.flatMap_cons]
    rw [writeFiles_eq_blocks fs _ _ (fun g hg => hs g (by simp [hg]))]
    congr 1
    have hf : f.content.len < 2147483648 := by have := hs f (by simp); simp only [int32Max] at this; omega
    simp only [writeBlock, Spec.block, memberOf, Content.toBytes_length, copyAll_eq]
    rw [sec_eq_spec _ _ hf]
    have : (4 - f.content.len % 4) % 4 = Spec.pad4 f.content.len - f.content.len := by simp only [Spec.pad4]; omega
    rw [this]; rfl

theorem names_eq_nameTable (l : List InFile) : (l.map nameOf).flatMap (fun n => n ++ [0]) = Spec.nameTable (l.map memberOf) := by
  simp only [Spec.nameTable, List.flatMap_map]
  rfl

theorem emit_planOf (l : List InFile) (hH : Spec.headerLen (descOf l) < 2147483648) (hs : allSmall l) :
    emit (planOf l) = Spec.refEncode (descOf l) := by
  have hH' := hH
  rw [headerLen_descOf] at hH'
  have hS := le_pad4 (4 + tableLen l)
  have hI := le_pad4 (14 * l.length)
  have hhdr : writeHeader (planOf l) = Spec.header (descOf l) := by
    unfold writeHeader Spec.header
    simp only [planOf, headerLen_descOf, volsLen_descOf, voliLen_descOf, ar_hl hS hI hH', ar_zerosS hS hI hH',
      ar_zerosI hS hI hH', names_eq_nameTable, entries_eq_spec]
    rw [sec_eq_spec tagVOL _ (by omega), sec_eq_spec tagVOLH 0 (by decide), sec_eq_spec tagVOLS _ (by omega),
      sec_eq_spec tagVOLI _ (by omega)]
    simp only [descOf, nameTable_length, tagVOL, tagVOLH, tagVOLS, tagVOLI, List.length_map, Nat.add_zero,
      List.replicate_zero, List.flatten_nil, List.append_nil, List.append_assoc]
  unfold emit Spec.refEncode
  rw [hhdr]
  exact congrArg _ (writeFiles_eq_blocks l 0 _ hs)

theorem create_eq (out : Bytes) (files : List InFile) : create out files = plan out files >>= fun p => .ok (emit p) := by
  unfold create; cases plan out files <;> rfl

theorem create_refuses (out : Bytes) (files : List InFile) : Refuses (create out files) := by
  rw [create_eq]
  exact .bind (plan_refuses out files) fun _ => .ok _

theorem create_eq_ok {out : Bytes} {files : List InFile} {b : Bytes}
    (hH : Spec.headerLen (descOf (sortCI nameOf files)) < 2147483648) :
    create out files = .ok b ↔ Good out (sortCI nameOf files) ∧ Spec.refEncode (descOf (sortCI nameOf files)) = b := by
  simp only [create_eq, bind_eq_ok, plan_eq_ok hH, Except.ok.injEq]
  constructor
  · rintro ⟨_, ⟨g, rfl⟩, rfl⟩; exact ⟨g, (emit_planOf _ g.header g.small).symm⟩
  · rintro ⟨g, rfl⟩; exact ⟨_, ⟨g, rfl⟩, emit_planOf _ g.header g.small⟩

theorem create_of_good (out : Bytes) (files : List InFile) (g : Good out (sortCI nameOf files)) :
    create out files = .ok (Spec.refEncode (descOf (sortCI nameOf files))) :=
  (create_eq_ok g.header).mpr ⟨g, rfl⟩

theorem create_ok_basic {out : Bytes} {files : List InFile} {b : Bytes} (h : create out files = .ok b) :
    hasAdjacentDup ((sortCI nameOf files).map nameOf) = false ∧ allSmall (sortCI nameOf files) ∧
    (sortCI nameOf files).any (fun f => Path.pathsAreEqual out f.path) = false ∧ out.isEmpty = false := by
  simp only [create_eq, bind_eq_ok] at h
  obtain ⟨p, hp, -⟩ := h
  exact plan_ok_basic hp

end Op2.Vol
