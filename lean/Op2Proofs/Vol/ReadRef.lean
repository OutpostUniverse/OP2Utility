import Op2Proofs.Vol.RefLayout
/-!
For a well-formed description whose name table and index stay below the allocation cap of the model (`allocCap`, 1 GiB),
`Vol.open (Spec.refEncode d)` is `refView d` (`open_refEncode_view`), which gives back each member (`refView_members`).

The statement without a cap (`open_refEncode_full`) is **false** for the frozen model: `Desc.wf` bounds the header
by 2^31, the reader refuses a name table of 2^30 bytes or more with `alloc` (`open_refEncode_alloc`).
-/
namespace Op2.Vol
open Op2

theorem View.stream_of_drop (v : View) (i : Nat) (e : Entry) (payload post : Bytes) (he : v.entry i = .ok e)
    (hf : v.file.drop e.dataOff = Spec.sec [86, 66, 76, 75] payload.length ++ (payload ++ post))
    (hlen : payload.length < 2147483648) (hoff : e.dataOff < 4294967296) : v.stream i = .ok payload := by
  obtain ⟨h8, h4, hd, hr⟩ := sec_drop hf rfl hlen
  have hl := Codec.length_of_drop hr
  have hm : decU32 (v.file.drop (e.dataOff + 4)) % padFlag = payload.length := by rw [hd, padFlag]; omega
  refine View.stream_eq_ok.mpr ⟨e, he, h8, h4, ?_, ?_, ?_⟩ <;> rw [hm]
  · simp only [W64]; omega
  · omega
  · rw [hr, List.take_left]

theorem offsetsOk_get : ∀ (ms : List Spec.Member) (doff i : Nat), Spec.offsetsOk doff ms = true → i < ms.length →
    doff + ((ms.take i).map Spec.blockLen).sum < 4294967296
  | [], _, _, _, hi => by simp at hi
  | m :: ms, doff, 0, h, _ => by
    simp only [Spec.offsetsOk, Bool.and_eq_true, decide_eq_true_eq] at h
    simp only [List.take_zero, List.map_nil, List.sum_nil]; omega
  | m :: ms, doff, i + 1, h, hi => by
    simp only [Spec.offsetsOk, Bool.and_eq_true, decide_eq_true_eq] at h
    have := offsetsOk_get ms (doff + Spec.blockLen m) i h.2 (by simpa using hi)
    simp only [List.take_succ_cons, List.map_cons, List.sum_cons]; omega

def idxBody (d : Spec.Desc) : Bytes :=
  Spec.entries 0 (Spec.headerLen d) d.members ++ ((List.replicate d.unused Spec.unusedEntry).flatten
    ++ zeros (Spec.pad4 (Spec.voliLen d) - 14 * (d.members.length + d.unused)))

def namePad0 (d : Spec.Desc) : Bytes := zeros (Spec.volsLen d - 4 - (Spec.nameTable d.members).length)

theorem header_eq (d : Spec.Desc) : Spec.header d =
    layout (Spec.headerLen d - 8) (Spec.volsLen d) (Spec.voliLen d) (Spec.nameTable d.members) (namePad0 d)
      (idxBody d) := by
  simp only [Spec.header, layout, idxBody, namePad0, List.append_assoc]

theorem refEncode_eq (d : Spec.Desc) : Spec.refEncode d =
    layout (Spec.headerLen d - 8) (Spec.volsLen d) (Spec.voliLen d) (Spec.nameTable d.members) (namePad0 d)
      (idxBody d ++ d.members.flatMap Spec.block) := by
  simp only [Spec.refEncode, Spec.header, layout, idxBody, namePad0, List.append_assoc]

theorem namePad0_length (d : Spec.Desc) :
    4 + (Spec.nameTable d.members).length + (namePad0 d).length = Spec.volsLen d := by
  have := le_pad4 (4 + (Spec.nameTable d.members).length)
  simp only [namePad0, Codec.zeros_length, Spec.volsLen]; omega

theorem idxBody_length (d : Spec.Desc) : (idxBody d).length = Spec.pad4 (Spec.voliLen d) := by
  have := le_pad4 (Spec.voliLen d)
  simp only [idxBody, List.length_append, entries_length, unused_length, Codec.zeros_length]
  simp only [Spec.voliLen] at this ⊢
  omega

theorem header_length (d : Spec.Desc) : (Spec.header d).length = Spec.headerLen d := by
  have := namePad0_length d
  rw [header_eq, layout_length, idxBody_length]
  simp only [Spec.headerLen]; omega

theorem nameTable_lt_header (d : Spec.Desc) : (Spec.nameTable d.members).length + 36 ≤ Spec.headerLen d := by
  have := le_pad4 (4 + (Spec.nameTable d.members).length)
  simp only [Spec.headerLen, Spec.volsLen]; omega

theorem voliLen_lt_header (d : Spec.Desc) : Spec.voliLen d + 36 ≤ Spec.headerLen d := by
  have := le_pad4 (Spec.voliLen d)
  have := le_pad4 (4 + (Spec.nameTable d.members).length)
  simp only [Spec.headerLen, Spec.volsLen]; omega

/-- entries decoded behind the members' ones (unused slots, and zero padding when the slack reaches 14) -/
def tailEntries (d : Spec.Desc) : List Entry :=
  decEntries (d.unused + d.slack / 14) ((List.replicate d.unused Spec.unusedEntry).flatten
    ++ (zeros (Spec.pad4 (Spec.voliLen d) - 14 * (d.members.length + d.unused)) ++ d.members.flatMap Spec.block))

theorem decEntries_ref (d : Spec.Desc) (h : d.WF) :
    decEntries (Spec.voliLen d / 14) (idxBody d ++ d.members.flatMap Spec.block)
      = mEntries 0 (Spec.headerLen d) d.members ++ tailEntries d := by
  obtain ⟨hm, hh, ho, _⟩ := (wf_iff d).mp h
  have hk : Spec.voliLen d / 14 = d.members.length + (d.unused + d.slack / 14) := by
    simp only [Spec.voliLen]; omega
  have := nameTable_lt_header d
  rw [hk]
  simp only [idxBody, List.append_assoc]
  exact decEntries_entries d.members 0 (Spec.headerLen d) _ _ hm ho (by omega)

theorem countValid_tail (d : Spec.Desc) (h : d.WF) : countValid (tailEntries d) = 0 := by
  obtain ⟨_, _, _, hs⟩ := (wf_iff d).mp h
  unfold tailEntries
  rcases hu : d.unused with _ | u
  · have : d.slack / 14 = 0 := by omega
    rw [this]; rfl
  · rw [show u + 1 + d.slack / 14 = (u + d.slack / 14) + 1 by omega]
    exact decEntries_unused _ _ _

theorem countValid_ref (d : Spec.Desc) (h : d.WF) :
    countValid (mEntries 0 (Spec.headerLen d) d.members ++ tailEntries d) = d.members.length := by
  obtain ⟨_, hh, _, _⟩ := (wf_iff d).mp h
  have := nameTable_lt_header d
  rw [countValid_append _ _ (mEntries_nameOff d.members 0 (Spec.headerLen d) (by omega)),
    countValid_tail d h, mEntries_length]
  rfl

theorem names_ref (d : Spec.Desc) (h : d.WF) :
    splitNames (Spec.nameTable d.members) = d.members.map (·.name) :=
  splitNames_table d.members fun m hm => ((memberOk_iff m).mp (((wf_iff d).mp h).1 m hm)).1

def refView (d : Spec.Desc) : View :=
  { file := Spec.refEncode d, names := d.members.map (·.name),
    entries := mEntries 0 (Spec.headerLen d) d.members ++ tailEntries d, count := d.members.length }

theorem open_refEncode_view (d : Spec.Desc) (h : d.WF) (hN : (Spec.nameTable d.members).length < allocCap)
    (hI : Spec.voliLen d / 14 * 14 ≤ allocCap) : Vol.open (Spec.refEncode d) = .ok (refView d) := by
  obtain ⟨hm, hh, ho, hs⟩ := (wf_iff d).mp h
  have h1 := nameTable_lt_header d
  have h2 := voliLen_lt_header d
  have h3 := namePad0_length d
  have h4 := le_pad4 (Spec.voliLen d)
  have hde := decEntries_ref d h
  have hcv := countValid_ref d h
  have hnm := names_ref d h
  have hvs : Spec.volsLen d + Spec.pad4 (Spec.voliLen d) + 32 = Spec.headerLen d := by
    simp only [Spec.headerLen]; omega
  have := openWith_layout (Spec.headerLen d - 8) (Spec.volsLen d) (Spec.voliLen d) (Spec.nameTable d.members)
    (namePad0 d) (idxBody d ++ d.members.flatMap Spec.block) (by omega) (by omega) h3 (by omega)
    (by rw [layout_length, List.length_append, idxBody_length]; omega) (by omega) hN
    (by rw [List.length_append, idxBody_length]; omega) hI
    (by rw [hde, hcv, hnm, List.length_map]; exact Nat.le_refl _)
  rw [hde, hcv, hnm, ← refEncode_eq] at this
  exact this

theorem refView_entry (d : Spec.Desc) (i : Nat) (hi : i < d.members.length) :
    ∃ no, (refView d).entries[i]? = some ⟨no, Spec.headerLen d + ((d.members.take i).map Spec.blockLen).sum,
      d.members[i].size, d.members[i].comp⟩ := by
  obtain ⟨no, hno⟩ := mEntries_get d.members 0 (Spec.headerLen d) i hi
  refine ⟨no, ?_⟩
  show (mEntries 0 (Spec.headerLen d) d.members ++ tailEntries d)[i]? = _
  rw [List.getElem?_append_left (by rw [mEntries_length]; exact hi)]
  exact hno

theorem refEncode_drop (d : Spec.Desc) (i : Nat) (hi : i < d.members.length) :
    (Spec.refEncode d).drop (Spec.headerLen d + ((d.members.take i).map Spec.blockLen).sum) =
      Spec.sec [86, 66, 76, 75] d.members[i].payload.length ++ (d.members[i].payload
        ++ (zeros (Spec.pad4 d.members[i].payload.length - d.members[i].payload.length)
          ++ (d.members.drop (i + 1)).flatMap Spec.block)) := by
  have := Codec.flatMap_drop_sum Spec.block d.members i hi []
  simp only [block_length, List.append_nil] at this
  rw [Spec.refEncode, ← header_length, List.drop_length_add_append, this]
  simp only [Spec.block, List.append_assoc]

theorem refView_members (d : Spec.Desc) (h : d.WF) (i : Nat) (hi : i < d.members.length) :
    (refView d).name i = .ok d.members[i].name ∧ (refView d).size i = .ok d.members[i].size ∧
    (refView d).kind i = .ok d.members[i].comp ∧ (refView d).stream i = .ok d.members[i].payload := by
  obtain ⟨hm, hh, ho, hs⟩ := (wf_iff d).mp h
  obtain ⟨no, he⟩ := refView_entry d i hi
  have hc : i < (refView d).count := hi
  have hent := View.entry_eq_ok.mpr ⟨hc, he⟩
  refine ⟨?_, ?_, ?_, ?_⟩
  · refine View.name_eq_ok.mpr ⟨hc, ?_⟩
    show (d.members.map (·.name))[i]? = _
    rw [List.getElem?_map, List.getElem?_eq_getElem hi]; rfl
  · unfold View.size; rw [hent]; rfl
  · unfold View.kind; rw [hent]; rfl
  · exact View.stream_of_drop (refView d) i _ d.members[i].payload _ hent (refEncode_drop d i hi)
      ((memberOk_iff _).mp (hm _ (List.getElem_mem hi))).2.1
      (offsetsOk_get d.members (Spec.headerLen d) i ho hi)

/-- the two allocations are of the name table and of the index, both parts of the header -/
theorem open_refEncode_capped (d : Spec.Desc) (h : d.WF) (hcap : Spec.headerLen d ≤ allocCap) :
    Vol.open (Spec.refEncode d) = .ok (refView d) := by
  have h1 := nameTable_lt_header d
  have h2 := voliLen_lt_header d
  exact open_refEncode_view d h (by omega) (by omega)

/-- the statement without a cap; it does **not** hold for the frozen model (see `open_refEncode_alloc`) -/
def open_refEncode_full : Prop :=
  ∀ (d : Spec.Desc), d.WF →
    ∃ v : View, Vol.open (Spec.refEncode d) = .ok v ∧ v.file = Spec.refEncode d ∧
      v.count = d.members.length ∧ v.names = d.members.map (·.name) ∧
      ∀ (i : Nat) (hi : i < d.members.length),
        v.name i = .ok d.members[i].name ∧ v.size i = .ok d.members[i].size ∧
        v.kind i = .ok d.members[i].comp ∧ v.stream i = .ok d.members[i].payload

theorem open_refEncode_alloc (d : Spec.Desc) (h : d.WF) (hN : allocCap ≤ (Spec.nameTable d.members).length) :
    Vol.open (Spec.refEncode d) = .error (.err .alloc) := by
  obtain ⟨hm, hh, ho, hs⟩ := (wf_iff d).mp h
  have h1 := nameTable_lt_header d
  have h2 := voliLen_lt_header d
  have h3 := namePad0_length d
  have h4 := le_pad4 (Spec.voliLen d)
  have hvs : Spec.volsLen d + Spec.pad4 (Spec.voliLen d) + 32 = Spec.headerLen d := by
    simp only [Spec.headerLen]; omega
  rw [refEncode_eq]
  exact openWith_layout_alloc _ _ _ _ _ _ (by omega) (by omega) h3 (by omega)
    (by rw [layout_length, List.length_append, idxBody_length]; omega) Cfg.fixed hN (by omega)

def bigDesc (n : Nat) : Spec.Desc :=
  { members := [⟨List.replicate n 1, [], 0, 0⟩], unused := 0, slack := 0 }

theorem bigDesc_table (n : Nat) : (Spec.nameTable (bigDesc n).members).length = n + 1 := by
  simp [bigDesc, Spec.nameTable]

theorem bigDesc_headerLen (n : Nat) : Spec.headerLen (bigDesc n) = 48 + Spec.pad4 (4 + (n + 1)) := by
  simp only [Spec.headerLen, Spec.volsLen, bigDesc_table, Spec.voliLen]
  simp only [bigDesc, Spec.pad4, List.length_cons, List.length_nil]
  omega

theorem bigDesc_wf (n : Nat) (hn : n + 100 < 2147483648) : (bigDesc n).WF := by
  have hl := bigDesc_headerLen n
  have hp : Spec.pad4 (4 + (n + 1)) ≤ n + 8 := by unfold Spec.pad4; omega
  have hm : Spec.memberOk ⟨List.replicate n 1, [], 0, 0⟩ = true := by
    simp [Spec.memberOk]
  refine (wf_iff _).mpr ⟨?_, by omega, ?_, Or.inl (Nat.zero_lt_succ _)⟩
  · intro m hm'
    cases List.mem_singleton.mp hm'
    exact hm
  · show Spec.offsetsOk (Spec.headerLen (bigDesc n)) [⟨List.replicate n 1, [], 0, 0⟩] = true
    simp only [Spec.offsetsOk, Bool.and_true, decide_eq_true_eq]; omega

theorem not_open_refEncode_full : ¬ open_refEncode_full := by
  intro hfull
  obtain ⟨v, hv, _⟩ := hfull (bigDesc 1073741824) (bigDesc_wf _ (by omega))
  rw [open_refEncode_alloc _ (bigDesc_wf _ (by omega)) (by rw [bigDesc_table]; simp only [allocCap]; omega)] at hv
  exact nomatch hv

def exampleDesc : Spec.Desc :=
  { members := [⟨[97], [1, 2, 3], 3, 256⟩, ⟨[98], [4], 77, 259⟩], unused := 1, slack := 1 }

theorem exampleDesc_wf : exampleDesc.WF := by
  show exampleDesc.wf = true
  decide
example : Spec.headerLen exampleDesc ≤ allocCap := by decide

example : ∃ v : View, Vol.open (Spec.refEncode exampleDesc) = .ok v ∧ v.count = 2 ∧ v.names = [[97], [98]] ∧
    v.stream 0 = .ok [1, 2, 3] ∧ v.stream 1 = .ok [4] ∧ v.size 1 = .ok 77 ∧ v.kind 1 = .ok 259 := by
  have hi := refView_members exampleDesc exampleDesc_wf
  exact ⟨_, open_refEncode_capped _ exampleDesc_wf (by decide), rfl, rfl, (hi 0 (by decide)).2.2.2, (hi 1 (by decide)).2.2.2,
    (hi 1 (by decide)).2.1, (hi 1 (by decide)).2.2.1⟩

end Op2.Vol
