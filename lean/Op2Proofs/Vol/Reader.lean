import Op2Proofs.Vol.Chain
import Op2Proofs.Codec
/-!
`openWith_eq_ok` says exactly when an archive is accepted (`Accepts`: the reads and tests of `ReadVolHeader` in the order
of the code) and which view results; `entry_eq_ok`, `name_eq_ok`, `stream_eq_ok` do the same for the calls.
-/
namespace Op2.Vol
open Op2 Op2.Except

theorem readAt_eq_ok {file r : Bytes} {p n : Nat} :
    readAt file p n = .ok r ↔ p + n ≤ file.length ∧ (file.drop p).take n = r := by
  unfold readAt
  split
  · exact ⟨fun h => ⟨‹_›, by cases h; rfl⟩, fun h => by rw [h.2]⟩
  · exact ⟨fun h => (nomatch h), fun h => absurd h.1 ‹_›⟩

theorem readAt_length {file : Bytes} {p n : Nat} {r : Bytes} (h : readAt file p n = .ok r) : r.length = n := by
  obtain ⟨hl, rfl⟩ := readAt_eq_ok.mp h
  rw [List.length_take, List.length_drop]
  omega

theorem readAt_noFault (file : Bytes) (p n : Nat) : NoFault (readAt file p n) := by
  unfold readAt
  split
  · exact noFault_ok _
  · exact noFault_err _

theorem vecIdx_eq_ok {α : Type} {l : List α} {i : Nat} {a : α} : vecIdx l i = .ok a ↔ l[i]? = some a := by
  unfold vecIdx
  cases l[i]? with
  | none => exact ⟨fun h => (nomatch h), fun h => (nomatch h)⟩
  | some b => exact ⟨fun h => by cases h; rfl, fun h => by cases h; rfl⟩

theorem vecIdx_noFault {α : Type} {l : List α} {i : Nat} (h : i < l.length) : NoFault (vecIdx l i) := by
  unfold vecIdx
  rw [List.getElem?_eq_getElem h]
  exact noFault_ok _

theorem copyInto_noFault {n : Nat} {raw : Bytes} (h : raw.length ≤ n) : NoFault (copyInto n raw) := by
  unfold copyInto
  rw [if_pos h]
  exact noFault_ok _

theorem countValid_le (es : List Entry) : countValid es ≤ es.length := by
  induction es with
  | nil => exact Nat.le_refl _
  | cons e es ih =>
    simp only [countValid, List.length_cons]
    split <;> omega

theorem decEntries_length (n : Nat) (b : Bytes) : (decEntries n b).length = n := by
  induction n generalizing b with
  | zero => simp [decEntries]
  | succ n ih => simp [decEntries, ih]

theorem decU32_header (file : Bytes) (off : Nat) :
    decU32 (((file.drop off).take 8).drop 4) = decU32 (file.drop (off + 4)) := by
  rw [List.drop_take, List.drop_drop]
  exact Codec.decU32_take _ 4 (Nat.le_refl 4)

/-- the index table of `ReadVolHeader`: `il` bytes announced, `il / 14` whole entries decoded -/
def readIndex (cfg : Cfg) (file : Bytes) (pos il : Nat) : M (List Entry) :=
  if il > 0 then
    if il / entrySize * entrySize > allocCap then .error (.err .alloc) else
    readAt file pos (if cfg.d6 then il / entrySize * entrySize else il) >>= fun raw =>
    copyInto (il / entrySize * entrySize) raw >>= fun buf =>
    .ok (decEntries (il / entrySize) buf)
  else .ok []

/-! `rfl` has to unfold a `match` on a variable to see that it is the `>>=`; with smart unfolding on it does not. -/
section
set_option smartUnfolding false

theorem readTag_eq (file : Bytes) (p : Nat) (tag : Bytes) : readTag file p tag =
    readAt file p secSize >>= fun h =>
    if h.take 4 ≠ tag then .error (.err .format)
    else if decU32 (h.drop 4) / padFlag = 0 then .error (.err .format)
    else .ok (decU32 (h.drop 4) % padFlag) := rfl

theorem openWith_eq (cfg : Cfg) (file : Bytes) : openWith cfg file =
    if file.length < secSize then .error (.err .format) else
    readTag file 0 tagVOL >>= fun hl =>
    if file.length < hl + secSize then .error (.err .format) else
    readTag file 8 tagVOLH >>= fun vh =>
    if vh ≠ 0 then .error (.err .format) else
    readTag file 16 tagVOLS >>= fun sl =>
    if hl < sl + secSize * 2 + 4 then .error (.err .format) else
    readAt file 24 4 >>= fun a =>
    if decU32 a ≥ allocCap then .error (.err .alloc) else
    readAt file 28 (decU32 a) >>= fun chars =>
    readTag file (28 + decU32 a + u32 (2 * W32 + sl - decU32 a - 4)) tagVOLI >>= fun il =>
    readIndex cfg file (28 + decU32 a + u32 (2 * W32 + sl - decU32 a - 4) + 8) il >>= fun entries =>
    if hl < u32 (sl + il + headerExtra) then .error (.err .format) else
    if cfg.d7 && decide (countValid entries > (splitNames chars).length) then .error (.err .format)
    else .ok { file := file, names := splitNames chars, entries := entries, count := countValid entries } := rfl

namespace View

theorem entry_eq (v : View) (i : Nat) : v.entry i = v.verify i >>= fun _ => vecIdx v.entries i := rfl

theorem name_eq (v : View) (i : Nat) : v.name i = v.verify i >>= fun _ => vecIdx v.names i := rfl

theorem blockHeader_eq (v : View) (i : Nat) : v.blockHeader i = v.entry i >>= fun e =>
    readAt v.file e.dataOff secSize >>= fun h =>
    if h.take 4 ≠ tagVBLK then .error (.err .format) else .ok (decU32 (h.drop 4) % padFlag, e.dataOff + secSize) := rfl

theorem stream_eq (v : View) (i : Nat) : v.stream i = v.blockHeader i >>= fun r => slice v.file r.2 r.1 := rfl

theorem lzhLoad_eq (v : View) (i : Nat) : v.lzhLoad i = v.blockHeader i >>= fun r =>
    if r.1 ≥ allocCap then .error (.err .alloc) else (slice v.file r.2 r.1).map fun _ => () := rfl

theorem extract_eq (v : View) (i : Nat) : v.extract i = v.entry i >>= fun e =>
    if e.comp = uncompressed then (v.stream i).map some
    else if e.comp = lzh then (v.lzhLoad i).map fun _ => none
    else .error (.err .format) := rfl

theorem find_succ (v : View) (q : Bytes) (fuel i : Nat) : v.find q (fuel + 1) i = v.name i >>= fun n =>
    if Path.pathsAreEqual n q then .ok (some i) else v.find q fuel (i + 1) := rfl

theorem index_eq (v : View) (q : Bytes) : v.index q = v.find q v.count 0 >>= fun r =>
    match r with
    | some i => .ok i
    | none => .error (.err .format) := rfl

end View
end

theorem readTag_eq_ok {file tag : Bytes} {p n : Nat} : readTag file p tag = .ok n ↔
    p + 8 ≤ file.length ∧ (file.drop p).take 4 = tag ∧ decU32 (file.drop (p + 4)) / padFlag ≠ 0 ∧
      decU32 (file.drop (p + 4)) % padFlag = n := by
  simp only [readTag_eq, bind_eq_ok, refuse_eq_ok, readAt_eq_ok, secSize, Except.ok.injEq, Decidable.not_not]
  constructor
  · rintro ⟨_, ⟨h8, rfl⟩, ht, hf, rfl⟩
    rw [List.take_take, decU32_header] at *
    exact ⟨h8, ht, hf, rfl⟩
  · rintro ⟨h8, ht, hf, rfl⟩
    refine ⟨_, ⟨h8, rfl⟩, ?_⟩
    rw [List.take_take, decU32_header]
    exact ⟨ht, hf, rfl⟩

/-- a section length is a 31-bit field, so it fits 32 bits (all its users need) -/
theorem readTag_lt {file tag : Bytes} {p n : Nat} (h : readTag file p tag = .ok n) : n < W32 := by
  obtain ⟨-, -, -, rfl⟩ := readTag_eq_ok.mp h
  exact Nat.lt_trans (Nat.mod_lt _ (by decide)) (by decide)

theorem readTag_noFault (file : Bytes) (p : Nat) (tag : Bytes) : NoFault (readTag file p tag) :=
  readTag_eq .. ▸ .bind (readAt_noFault _ _ _) fun _ _ => .refuse (.refuse (noFault_ok _))

/-- `Cfg.fixed` reads exactly the bytes of the whole entries, so the copy fits the buffer -/
theorem readIndex_noFault (file : Bytes) (pos il : Nat) : NoFault (readIndex Cfg.fixed file pos il) := by
  unfold readIndex
  split
  · exact .refuse <| .bind (readAt_noFault _ _ _) fun raw hraw =>
      .bind (copyInto_noFault (Nat.le_of_eq (readAt_length hraw))) fun _ _ => noFault_ok _
  · exact noFault_ok _

theorem openWith_fixed_noFault (b : Bytes) : NoFault (openWith Cfg.fixed b) := by
  rw [openWith_eq]
  exact .refuse <| .bind (readTag_noFault _ _ _) fun _ _ => .refuse <| .bind (readTag_noFault _ _ _) fun _ _ => .refuse <|
    .bind (readTag_noFault _ _ _) fun _ _ => .refuse <| .bind (readAt_noFault _ _ _) fun _ _ => .refuse <|
    .bind (readAt_noFault _ _ _) fun _ _ => .bind (readTag_noFault _ _ _) fun _ _ => .bind (readIndex_noFault _ _ _) fun _ _ =>
    .refuse <| .refuse <| noFault_ok _

/-- what `ReadVolHeader` reads on its way: the lengths of the `VOL `, `vols` and `voli` sections, the four bytes of the
    name-table length, the name table and the decoded index -/
structure Walk where
  hl : Nat
  sl : Nat
  il : Nat
  len : Bytes
  chars : Bytes
  entries : List Entry

/-- where the `voli` header is looked for: the seek distance is computed in 32 bits -/
def Walk.idx (w : Walk) : Nat := 28 + decU32 w.len + u32 (2 * W32 + w.sl - decU32 w.len - 4)

def Walk.view (w : Walk) (file : Bytes) : View :=
  { file := file, names := splitNames w.chars, entries := w.entries, count := countValid w.entries }

structure Accepts (cfg : Cfg) (file : Bytes) (w : Walk) : Prop where
  vol : readTag file 0 tagVOL = .ok w.hl
  whole : w.hl + secSize ≤ file.length
  volh : readTag file 8 tagVOLH = .ok 0
  vols : readTag file 16 tagVOLS = .ok w.sl
  room : w.sl + secSize * 2 + 4 ≤ w.hl
  len : readAt file 24 4 = .ok w.len
  cap : decU32 w.len < allocCap
  chars : readAt file 28 (decU32 w.len) = .ok w.chars
  voli : readTag file w.idx tagVOLI = .ok w.il
  index : readIndex cfg file (w.idx + 8) w.il = .ok w.entries
  header : u32 (w.sl + w.il + headerExtra) ≤ w.hl
  named : cfg.d7 = true → countValid w.entries ≤ (splitNames w.chars).length

theorem openWith_eq_ok {cfg : Cfg} {file : Bytes} {v : View} :
    openWith cfg file = .ok v ↔ ∃ w, Accepts cfg file w ∧ w.view file = v := by
  simp only [openWith_eq, bind_eq_ok, refuse_eq_ok, Except.ok.injEq, Bool.and_eq_true, decide_eq_true_eq, not_and,
    Nat.not_lt, Nat.not_le, ge_iff_le, gt_iff_lt, Decidable.not_not]
  constructor
  · rintro ⟨-, hl, vol, whole, _, volh, rfl, sl, vols, room, a, len, cap, chars, hc, il, voli, es, index, header, named, rfl⟩
    exact ⟨⟨hl, sl, il, a, chars, es⟩, ⟨vol, whole, volh, vols, room, len, cap, hc, voli, index, header, named⟩, rfl⟩
  · rintro ⟨w, a, rfl⟩
    exact ⟨Nat.le_trans (Nat.le_add_left ..) a.whole, _, a.vol, a.whole, _, a.volh, rfl, _, a.vols, a.room, _, a.len,
      a.cap, _, a.chars, _, a.voli, _, a.index, a.header, a.named, rfl⟩

theorem openWith_ok_tests (cfg : Cfg) (file : Bytes) (v : View) (h : openWith cfg file = .ok v) :
    ∃ hl sl il p, readTag file 0 tagVOL = .ok hl ∧ readTag file 8 tagVOLH = .ok 0 ∧ readTag file 16 tagVOLS = .ok sl ∧
      readTag file p tagVOLI = .ok il ∧
      ¬ (file.length < secSize ∨ file.length < hl + secSize ∨ (0 : Nat) ≠ 0 ∨ hl < sl + secSize * 2 + 4 ∨ hl < u32 (sl + il + headerExtra)) := by
  obtain ⟨w, a, -⟩ := openWith_eq_ok.mp h
  refine ⟨_, _, _, _, a.vol, a.volh, a.vols, a.voli, ?_⟩
  have := a.whole; have := a.room; have := a.header
  simp only [secSize] at *
  omega

namespace View

theorem verify_eq_ok {v : View} {i : Nat} {u : Unit} : v.verify i = .ok u ↔ i < v.count := by
  unfold verify
  split
  · exact ⟨fun h => (nomatch h), fun h => absurd h (Nat.not_lt.mpr ‹_›)⟩
  · exact ⟨fun _ => Nat.lt_of_not_ge ‹_›, fun _ => rfl⟩

theorem verify_noFault (v : View) (i : Nat) : NoFault (v.verify i) := by
  unfold verify
  exact .refuse (noFault_ok _)

theorem entry_eq_ok {v : View} {i : Nat} {e : Entry} : v.entry i = .ok e ↔ i < v.count ∧ v.entries[i]? = some e := by
  simp only [entry_eq, bind_eq_ok, verify_eq_ok, vecIdx_eq_ok, exists_and_left, exists_const]

theorem name_eq_ok {v : View} {i : Nat} {n : Bytes} : v.name i = .ok n ↔ i < v.count ∧ v.names[i]? = some n := by
  simp only [name_eq, bind_eq_ok, verify_eq_ok, vecIdx_eq_ok, exists_and_left, exists_const]

theorem slice_eq_ok {file r : Bytes} {p n : Nat} :
    slice file p n = .ok r ↔ n ≤ W64 - 1 - p ∧ p + n ≤ file.length ∧ (file.drop p).take n = r := by
  unfold slice
  simp only [refuse_eq_ok, Except.ok.injEq, Nat.not_lt, gt_iff_lt]

theorem stream_eq_ok {v : View} {i : Nat} {b : Bytes} : v.stream i = .ok b ↔
    ∃ e, v.entry i = .ok e ∧ e.dataOff + 8 ≤ v.file.length ∧ (v.file.drop e.dataOff).take 4 = tagVBLK ∧
      decU32 (v.file.drop (e.dataOff + 4)) % padFlag ≤ W64 - 1 - (e.dataOff + 8) ∧
      e.dataOff + 8 + decU32 (v.file.drop (e.dataOff + 4)) % padFlag ≤ v.file.length ∧
      (v.file.drop (e.dataOff + 8)).take (decU32 (v.file.drop (e.dataOff + 4)) % padFlag) = b := by
  simp only [stream_eq, blockHeader_eq, bind_eq_ok, refuse_eq_ok, readAt_eq_ok, slice_eq_ok, Except.ok.injEq, secSize,
    Decidable.not_not]
  constructor
  · rintro ⟨_, ⟨e, he, _, ⟨h8, rfl⟩, ht, rfl⟩, h1, h2, rfl⟩
    rw [List.take_take, decU32_header] at *
    exact ⟨e, he, h8, ht, h1, h2, rfl⟩
  · rintro ⟨e, he, h8, ht, hw, hl, rfl⟩
    refine ⟨_, ⟨e, he, _, ⟨h8, rfl⟩, by rwa [List.take_take], rfl⟩, ?_⟩
    rw [decU32_header]
    exact ⟨hw, hl, rfl⟩

end View

theorem extract_of_kind_stream (v : View) (i : Nat) (b : Bytes) (hk : v.kind i = .ok uncompressed)
    (hs : v.stream i = .ok b) : v.extract i = .ok (some b) := by
  obtain ⟨e, he, hc⟩ := map_eq_ok.mp hk
  rw [View.extract_eq, he, ok_bind, if_pos hc, hs]
  rfl

end Op2.Vol
