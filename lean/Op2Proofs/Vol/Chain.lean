import Op2Model.Vol
import Op2Proofs.ExceptChain
/-!
The model writes error propagation as `match x with | .error e => .error e | .ok a => k a`.  Each function gets a lemma
(`f_eq`, `f_cons`) that restates it as a chain of `>>=` and refusals; what the chain returns follows step by step from
`Op2Proofs.ExceptChain`, that it never faults and that it only ever refuses from the lemmas here.
-/
namespace Op2.Vol
open Op2

def NoFault {α : Type} (m : M α) : Prop := ∀ f : Fault, m ≠ .error (.fault f)

theorem noFault_ok {α : Type} (a : α) : NoFault (.ok a : M α) := by
  intro f h; cases h

theorem noFault_err {α : Type} (e : Err) : NoFault (.error (.err e) : M α) := by
  intro f h; cases h

theorem NoFault.bind {α β : Type} {x : M α} {k : α → M β} (hx : NoFault x) (hk : ∀ a, x = .ok a → NoFault (k a)) :
    NoFault (x >>= k) := by
  cases x with
  | error e => exact fun f h => hx f (by cases h; rfl)
  | ok a => exact hk a rfl

theorem NoFault.refuse {α : Type} {c : Prop} [Decidable c] {e : Err} {m : M α} (hm : NoFault m) :
    NoFault (if c then .error (.err e) else m) := by
  split
  · exact noFault_err e
  · exact hm

theorem NoFault.map {α β : Type} {g : α → β} {m : M α} (h : NoFault m) : NoFault (m.map g) := by
  cases m with
  | ok a => exact noFault_ok _
  | error e => exact fun f hf => h f (by cases hf; rfl)

def Refuses {α : Type} (m : Except Err α) : Prop := ∀ e, m = .error e → e = .refused

theorem Refuses.ok {α : Type} (a : α) : Refuses (.ok a : Except Err α) := fun _ h => nomatch h

theorem Refuses.bind {α β : Type} {x : Except Err α} {k : α → Except Err β} (hx : Refuses x) (hk : ∀ a, Refuses (k a)) :
    Refuses (x >>= k) := by
  cases x with
  | error e => exact fun e' h => hx e' (by cases h; rfl)
  | ok a => exact hk a

theorem Refuses.refuse {α : Type} {c : Prop} [Decidable c] {m : Except Err α} (hm : Refuses m) :
    Refuses (if c then .error .refused else m) := by
  split
  · exact fun _ h => by cases h; rfl
  · exact hm

end Op2.Vol
