import Op2Proofs.Vol.ReadRef
/-!
`Spec.parse` reads the fields of an archive back without validating anything.  On the reference encoding of a strict
description it recovers that description (`parse_refEncode`), so `Spec.strictWF` (parse, check strictness, re-encode,
compare) accepts every conforming archive (`strictWF_complete`).  With the soundness direction this gives
`strictWF b = true ↔ StrictWF b` and a `Decidable (StrictWF b)` instance.
-/
namespace Op2.Vol.Spec
open Op2
open Op2.Codec (drop_advance)

theorem splitGo_eq : ∀ (b cur : Bytes) (acc : List Bytes), splitGo b cur acc = splitNamesGo b cur acc
  | [], _, _ => rfl
  | c :: r, cur, acc => by rw [splitGo, splitNamesGo, splitGo_eq r, splitGo_eq r]

theorem splitGo_nameTable (ms : List Member) (h0 : ∀ m ∈ ms, memberOk m = true) :
    splitGo (nameTable ms) [] [] = ms.map (·.name) :=
  (splitGo_eq ..).trans (splitNames_table ms fun m hm => ((memberOk_iff m).mp (h0 m hm)).1)

theorem parseMembers_entries (b : Bytes) (ebase : Nat) : ∀ (rest : List Member) (k noff doff : Nat) (Q C : Bytes),
    b.drop (ebase + 14 * k) = entries noff doff rest ++ Q → b.drop doff = rest.flatMap block ++ C →
    (∀ m ∈ rest, memberOk m = true) → offsetsOk doff rest = true →
    parseMembers b ebase k (rest.map (·.name)) = rest
  | [], _, _, _, _, _, _, _, _, _ => rfl
  | m :: ms, k, noff, doff, Q, C, hE, hB, hm, ho => by
    obtain ⟨-, hpl, hsz, hcp⟩ := (memberOk_iff m).mp (hm m (List.mem_cons_self ..))
    simp only [offsetsOk, Bool.and_eq_true, decide_eq_true_eq] at ho
    obtain ⟨hd, ho'⟩ := ho
    -- the entry: four fields, then the entries of `ms`
    simp only [entries, List.append_assoc] at hE
    have h4 := drop_advance hE (q := ebase + 14 * k + 4) rfl
    have h8 := drop_advance h4 (q := ebase + 14 * k + 8) rfl
    have h12 := drop_advance h8 (q := ebase + 14 * k + 12) rfl
    have h14 := drop_advance h12 (q := ebase + 14 * (k + 1)) (by rw [Parser.encU16_length]; omega)
    -- the block: header, payload, padding, then the blocks of `ms`
    simp only [List.flatMap_cons, block, List.append_assoc] at hB
    obtain ⟨-, -, hlen, hpay⟩ := sec_drop hB rfl hpl
    replace hlen : at32 b (doff + 4) = 2147483648 + m.payload.length := hlen
    have hnext := drop_advance (drop_advance hpay rfl) (q := doff + blockLen m)
      (by have := le_pad4 m.payload.length; simp only [Codec.zeros_length, blockLen]; omega)
    rw [List.map_cons, parseMembers]
    simp only [at32_drop h4 hd, at32_drop h8 hsz, at16_drop h12 hcp, hlen, hpay, List.take_left,
      show (2147483648 + m.payload.length) % 2147483648 = m.payload.length by omega,
      parseMembers_entries b ebase ms (k + 1) _ _ Q C h14 hnext (fun m' h' => hm m' (by simp [h'])) ho']

theorem parseMembers_refEncode (d : Desc) (h : d.WF) :
    parseMembers (refEncode d) (32 + volsLen d) 0 (d.members.map (·.name)) = d.members := by
  obtain ⟨hm, _, ho, _⟩ := (wf_iff d).mp h
  refine parseMembers_entries (refEncode d) (32 + volsLen d) d.members 0 0 (headerLen d)
    (((List.replicate d.unused unusedEntry).flatten ++ zeros (pad4 (voliLen d) - 14 * (d.members.length + d.unused)))
      ++ d.members.flatMap block) [] ?_ ?_ hm ho
  · rw [refEncode_eq, show 32 + volsLen d + 14 * 0 = 24 + volsLen d + 8 by omega,
      layout_dropE _ _ _ _ _ _ (namePad0_length d), idxBody, List.append_assoc]
  · rw [refEncode, ← header_length, List.drop_left, List.append_nil]

theorem parse_refEncode_wf (d : Desc) (h : d.WF) (hu : d.unused = 0) (hs : d.slack = 0) :
    parse (refEncode d) = d := by
  obtain ⟨hm, hh, _, _⟩ := (wf_iff d).mp h
  have h1 := nameTable_lt_header d
  have hv : volsLen d < 2147483648 := by simp only [headerLen] at hh; omega
  have e20 : at32 (refEncode d) 20 % 2147483648 = volsLen d := by
    rw [refEncode_eq, at32, (sec_drop (layout_drop16 ..) rfl hv).2.2.1]; omega
  have e24 : at32 (refEncode d) 24 = (nameTable d.members).length := by
    rw [refEncode_eq, at32_drop (layout_drop24 ..) (by omega)]
  have enm : ((refEncode d).drop 28).take (nameTable d.members).length = nameTable d.members := by
    rw [refEncode_eq, layout_drop28, List.take_left]
  unfold parse
  simp only [e20, e24, enm, splitGo_nameTable d.members hm, parseMembers_refEncode d h]
  cases d
  simp only at hu hs
  simp only [hu, hs]

theorem parse_refEncode (d : Desc) (h : d.Strict) : parse (refEncode d) = d := by
  obtain ⟨hw, hu, hs, -⟩ := (strict_iff d).mp h
  exact parse_refEncode_wf d hw hu hs

theorem strictWF_complete (b : Bytes) (h : StrictWF b) : strictWF b = true := by
  obtain ⟨d, hd, rfl⟩ := h
  unfold strictWF
  simp only [parse_refEncode d hd, Bool.and_eq_true, beq_iff_eq]
  exact ⟨hd, trivial⟩

theorem strictWF_sound (b : Bytes) (h : strictWF b = true) : StrictWF b := by
  unfold strictWF at h
  simp only [Bool.and_eq_true, beq_iff_eq] at h
  exact ⟨parse b, h.1, h.2⟩

theorem strictWF_iff (b : Bytes) : strictWF b = true ↔ StrictWF b :=
  ⟨strictWF_sound b, strictWF_complete b⟩

instance (b : Bytes) : Decidable (StrictWF b) := decidable_of_iff _ (strictWF_iff b)

theorem strict_desc_unique (d : Desc) (b : Bytes) (hd : d.Strict) (hb : refEncode d = b) : d = parse b := by
  rw [← hb, parse_refEncode d hd]

example : StrictWF (refEncode ⟨[⟨[65], [1, 2, 3], 3, 256⟩], 0, 0⟩) := by decide
example : StrictWF (refEncode ⟨[⟨[65], [1, 2, 3], 3, 256⟩, ⟨[98, 46, 99], [], 0, 256⟩], 0, 0⟩) := by decide
example : StrictWF (refEncode ⟨[], 0, 0⟩) := by decide
example : ¬ StrictWF [1, 2, 3] := by decide
/-- a well-formed but not strict description (compression code 259) does not conform -/
example : ¬ StrictWF (refEncode ⟨[⟨[65], [1, 2, 3], 3, 259⟩], 0, 0⟩) := by decide
example : parse (refEncode ⟨[⟨[65], [1, 2, 3], 3, 256⟩], 0, 0⟩) = ⟨[⟨[65], [1, 2, 3], 3, 256⟩], 0, 0⟩ := by decide

end Op2.Vol.Spec
