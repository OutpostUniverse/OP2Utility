import Op2Proofs.Vol.Reader
/-!
Calls on an opened archive never fault and depend on the view only (C05, VOL part).
-/
namespace Op2.Vol
open Op2

/-- every index that `VerifyIndexInBounds` lets through is a position of both vectors -/
def View.Inv (v : View) : Prop := v.count ≤ v.names.length ∧ v.count ≤ v.entries.length

instance (v : View) : Decidable v.Inv := by unfold View.Inv; exact inferInstance

/-! The two vector accesses are guarded by `verify`; everything behind `entry` only reads. -/

namespace View

theorem name_noFault (v : View) (hv : v.Inv) (i : Nat) : NoFault (v.name i) :=
  name_eq .. ▸ .bind (verify_noFault v i) fun _ hu => vecIdx_noFault (Nat.lt_of_lt_of_le (verify_eq_ok.mp hu) hv.1)

theorem entry_noFault (v : View) (hv : v.Inv) (i : Nat) : NoFault (v.entry i) :=
  entry_eq .. ▸ .bind (verify_noFault v i) fun _ hu => vecIdx_noFault (Nat.lt_of_lt_of_le (verify_eq_ok.mp hu) hv.2)

theorem size_noFault (v : View) (hv : v.Inv) (i : Nat) : NoFault (v.size i) :=
  .map (entry_noFault v hv i)

theorem kind_noFault (v : View) (hv : v.Inv) (i : Nat) : NoFault (v.kind i) :=
  .map (entry_noFault v hv i)

theorem slice_noFault (file : Bytes) (s l : Nat) : NoFault (slice file s l) := by
  unfold slice
  exact .refuse (.refuse (noFault_ok _))

theorem blockHeader_noFault {v : View} {i : Nat} (h : NoFault (v.entry i)) : NoFault (v.blockHeader i) :=
  blockHeader_eq .. ▸ .bind h fun _ _ => .bind (readAt_noFault _ _ _) fun _ _ => .refuse (noFault_ok _)

theorem stream_noFault {v : View} {i : Nat} (h : NoFault (v.entry i)) : NoFault (v.stream i) :=
  stream_eq .. ▸ .bind (blockHeader_noFault h) fun _ _ => slice_noFault _ _ _

theorem lzhLoad_noFault {v : View} {i : Nat} (h : NoFault (v.entry i)) : NoFault (v.lzhLoad i) :=
  lzhLoad_eq .. ▸ .bind (blockHeader_noFault h) fun _ _ => .refuse (.map (slice_noFault _ _ _))

theorem extract_noFault {v : View} {i : Nat} (h : NoFault (v.entry i)) : NoFault (v.extract i) := by
  rw [extract_eq]
  refine .bind h fun e _ => ?_
  split
  · exact .map (stream_noFault h)
  split
  · exact .map (lzhLoad_noFault h)
  · exact noFault_err _

theorem find_noFault (v : View) (hv : v.Inv) (q : Bytes) : ∀ fuel i : Nat, NoFault (v.find q fuel i)
  | 0, _ => noFault_ok _
  | fuel + 1, i => find_succ .. ▸ .bind (name_noFault v hv i) fun _ _ => by
    split
    · exact noFault_ok _
    · exact find_noFault v hv q fuel (i + 1)

theorem index_noFault (v : View) (hv : v.Inv) (q : Bytes) : NoFault (v.index q) :=
  index_eq .. ▸ .bind (find_noFault v hv q _ _) fun r _ => by
    cases r
    · exact noFault_err _
    · exact noFault_ok _

theorem contains_noFault (v : View) (hv : v.Inv) (q : Bytes) : NoFault (v.contains q) :=
  .map (find_noFault v hv q _ _)

end View

theorem Res.ofNat_ne_fault (m : M Nat) (h : NoFault m) (f : Fault) : Res.ofNat m ≠ .fail (.fault f) := by
  intro hf
  cases m with
  | ok a => cases hf
  | error e => exact h f (by cases hf; rfl)

theorem Res.ofBytes_ne_fault (m : M Bytes) (h : NoFault m) (f : Fault) : Res.ofBytes m ≠ .fail (.fault f) := by
  intro hf
  cases m with
  | ok a => cases hf
  | error e => exact h f (by cases hf; rfl)

theorem step_view (o : Obj) (op : Op) : (o.step op).2.view = o.view := by
  cases op <;> simp only [Obj.step] <;> (try split) <;> rfl

theorem step_noFault (v : View) (hv : v.Inv) (r : Nat) (op : Op) (f : Fault) :
    (Obj.step { view := v, rpos := r } op).1 ≠ .fail (.fault f) := by
  have he := View.entry_noFault v hv
  cases op with
  | count => intro h; cases h
  | name i => exact Res.ofBytes_ne_fault _ (View.name_noFault v hv i) f
  | size i => exact Res.ofNat_ne_fault _ (View.size_noFault v hv i) f
  | kind i => exact Res.ofNat_ne_fault _ (View.kind_noFault v hv i) f
  | index q => exact Res.ofNat_ne_fault _ (View.index_noFault v hv q) f
  | contains q => exact Res.ofNat_ne_fault _ (NoFault.map (View.contains_noFault v hv q)) f
  | stream i => exact Res.ofBytes_ne_fault _ (View.stream_noFault (he i)) f
  | streamByName q =>
    simp only [Obj.step]
    split
    · exact Res.ofBytes_ne_fault _ (View.stream_noFault (he _)) f
    · next e hx => exact fun h => View.index_noFault v hv q f (by cases h; exact hx)
  | extract i =>
    simp only [Obj.step]
    split
    · intro h; cases h
    · intro h; cases h
    · next e hx => exact fun h => View.extract_noFault (he i) f (by cases h; exact hx)

theorem run_noFault (v : View) (hv : v.Inv) (ops : List Op) (f : Fault) :
    ∀ o : Obj, o.view = v → Res.fail (.fault f) ∉ Obj.run o ops := by
  induction ops with
  | nil => intro o _ h; simp [Obj.run] at h
  | cons op ops ih =>
    intro o ho h
    simp only [Obj.run, List.mem_cons] at h
    rcases h with h | h
    · obtain ⟨ov, r⟩ := o
      cases ho
      exact step_noFault ov hv r op f h.symm
    · exact ih (o.step op).2 (by rw [step_view, ho]) h

theorem step_rpos_irrelevant (o : Obj) (r : Nat) (op : Op) :
    (Obj.step { o with rpos := r } op).1 = (o.step op).1 := by
  cases op <;> simp only [Obj.step] <;> (try split) <;> rfl

theorem step_fst_view (o o' : Obj) (h : o.view = o'.view) (op : Op) : (o.step op).1 = (o'.step op).1 := by
  obtain ⟨v, r⟩ := o
  obtain ⟨v', r'⟩ := o'
  cases h
  exact step_rpos_irrelevant ⟨v, r'⟩ r op

theorem run_view_only (ops : List Op) : ∀ o o' : Obj, o.view = o'.view → Obj.run o ops = Obj.run o' ops := by
  induction ops with
  | nil => intro o o' _; rfl
  | cons op ops ih =>
    intro o o' h
    simp only [Obj.run]
    rw [step_fst_view o o' h op, ih (o.step op).2 (o'.step op).2 (by rw [step_view, step_view, h])]

end Op2.Vol
