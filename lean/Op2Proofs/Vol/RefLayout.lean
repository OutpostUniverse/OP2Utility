import Op2Proofs.Vol.Reader
import Op2Proofs.Vol.Layout
/-!
"`file` holds `s` at offset `p`" is said as `file.drop p = s ++ rest`; a read at `p` then returns `s`, and the next
position follows by `Codec.drop_advance`.  `layout` is the header as `openWith` and `Spec.parse` walk it, over an abstractly
given name table and index.
-/
namespace Op2.Vol
open Op2 Op2.Except
open Op2.Codec (drop_advance take_of_drop length_of_drop decU32_of_drop decU16_of_drop)

theorem readAt_drop {file s r : Bytes} {p : Nat} (h : file.drop p = s ++ r) (hp : p ≤ file.length) :
    readAt file p s.length = .ok s := by
  have hl := length_of_drop h
  exact readAt_eq_ok.mpr ⟨by omega, take_of_drop h rfl⟩

theorem readAt_drop_take {file r : Bytes} {p n : Nat} (h : file.drop p = r) (hp : p ≤ file.length) (hn : n ≤ r.length) :
    readAt file p n = .ok (r.take n) := by
  have hl := congrArg List.length h
  rw [List.length_drop] at hl
  exact readAt_eq_ok.mpr ⟨by omega, by rw [h]⟩

theorem readAt_mid (pre mid post : Bytes) : readAt (pre ++ mid ++ post) pre.length mid.length = .ok mid :=
  readAt_drop (r := post) (by rw [List.append_assoc, List.drop_left]) (by simp only [List.length_append]; omega)

theorem at32_drop {b r : Bytes} {p v : Nat} (h : b.drop p = encU32 v ++ r) (hv : v < 4294967296) : Spec.at32 b p = v :=
  decU32_of_drop h hv

theorem at16_drop {b r : Bytes} {p v : Nat} (h : b.drop p = encU16 v ++ r) (hv : v < 65536) : Spec.at16 b p = v :=
  decU16_of_drop h hv

theorem sec_length (tag : Bytes) (len : Nat) (ht : tag.length = 4) : (Spec.sec tag len).length = 8 := by
  simp only [Spec.sec, List.length_append, ht, Parser.encU32_length]

theorem sec_drop {file tag r : Bytes} {p len : Nat} (h : file.drop p = Spec.sec tag len ++ r) (ht : tag.length = 4)
    (hl : len < 2147483648) :
    p + 8 ≤ file.length ∧ (file.drop p).take 4 = tag ∧ decU32 (file.drop (p + 4)) = 2147483648 + len ∧
      file.drop (p + 8) = r := by
  have hlen := length_of_drop h
  rw [sec_length _ _ ht] at hlen
  have h4 : file.drop (p + 4) = encU32 (2147483648 + len) ++ r :=
    drop_advance (by rw [h, Spec.sec, List.append_assoc]) (by rw [ht])
  refine ⟨by omega, ?_, ?_, ?_⟩
  · rw [h, Spec.sec, List.append_assoc, ← ht, List.take_left]
  · exact decU32_of_drop h4 (by omega)
  · exact drop_advance h4 rfl

theorem readTag_drop {file tag r : Bytes} {p len : Nat} (h : file.drop p = Spec.sec tag len ++ r)
    (ht : tag.length = 4) (hl : len < 2147483648) : readTag file p tag = .ok len := by
  obtain ⟨h8, h4, hd, -⟩ := sec_drop h ht hl
  refine readTag_eq_ok.mpr ⟨h8, h4, ?_, ?_⟩ <;> rw [hd] <;> simp only [padFlag] <;> omega

theorem entries_length : ∀ (ms : List Spec.Member) (noff doff : Nat),
    (Spec.entries noff doff ms).length = 14 * ms.length
  | [], _, _ => rfl
  | m :: ms, noff, doff => by
    simp only [Spec.entries, List.length_append, Parser.encU32_length, Parser.encU16_length,
      entries_length ms, List.length_cons]
    omega

theorem unusedEntry_length : Spec.unusedEntry.length = 14 := rfl

theorem unused_length (u : Nat) : (List.replicate u Spec.unusedEntry).flatten.length = 14 * u := by
  simp only [List.length_flatten, List.map_replicate, List.sum_replicate_nat, unusedEntry_length, Nat.mul_comm]

theorem block_length (m : Spec.Member) : (Spec.block m).length = Spec.blockLen m := by
  have := le_pad4 m.payload.length
  simp only [Spec.block, Spec.blockLen, List.length_append, Codec.zeros_length]
  rw [sec_length _ _ rfl]; omega

theorem nameTable_cons (m : Spec.Member) (ms : List Spec.Member) :
    Spec.nameTable (m :: ms) = m.name ++ 0 :: Spec.nameTable ms := by
  simp [Spec.nameTable, List.flatMap_cons]

theorem splitNamesGo_name (name : Bytes) (h0 : 0 ∉ name) (rest cur : Bytes) (acc : List Bytes) :
    splitNamesGo (name ++ 0 :: rest) cur acc = splitNamesGo rest [] ((cur.reverse ++ name) :: acc) := by
  induction name generalizing cur with
  | nil => simp [splitNamesGo]
  | cons c name ih =>
    have hc : c ≠ 0 := fun e => h0 (e ▸ List.mem_cons_self ..)
    rw [List.cons_append, splitNamesGo, if_neg hc, ih (fun hx => h0 (List.mem_cons_of_mem _ hx))]
    simp

theorem splitNamesGo_table (ms : List Spec.Member) (h0 : ∀ m ∈ ms, 0 ∉ m.name) (acc : List Bytes) :
    splitNamesGo (Spec.nameTable ms) [] acc = acc.reverse ++ ms.map (·.name) := by
  induction ms generalizing acc with
  | nil => simp [Spec.nameTable, splitNamesGo]
  | cons m ms ih =>
    rw [nameTable_cons, splitNamesGo_name _ (h0 m (by simp)), ih (fun m' hm => h0 m' (by simp [hm]))]
    simp

theorem splitNames_table (ms : List Spec.Member) (h0 : ∀ m ∈ ms, 0 ∉ m.name) :
    splitNames (Spec.nameTable ms) = ms.map (·.name) := by
  unfold splitNames; rw [splitNamesGo_table ms h0]; rfl

theorem decEntry_enc (a b c e : Nat) (ha : a < 4294967296) (hb : b < 4294967296) (hc : c < 4294967296)
    (he : e < 65536) (rest : Bytes) :
    decEntry (encU32 a ++ (encU32 b ++ (encU32 c ++ (encU16 e ++ rest)))) = ⟨a, b, c, e⟩ := by
  show Entry.mk (decU32 (encU32 a ++ _)) (decU32 (encU32 b ++ _)) (decU32 (encU32 c ++ _)) (decU16 (encU16 e ++ _)) = _
  rw [Parser.decU32_encU32 a ha, Parser.decU32_encU32 b hb, Parser.decU32_encU32 c hc, Parser.decU16_encU16 e he]

theorem drop14_enc (a b c e : Nat) (rest : Bytes) :
    (encU32 a ++ (encU32 b ++ (encU32 c ++ (encU16 e ++ rest)))).drop 14 = rest := rfl

/-- the entries the encoder writes for the members, as values -/
def mEntries : Nat → Nat → List Spec.Member → List Entry
  | _, _, [] => []
  | noff, doff, m :: ms =>
    ⟨noff, doff, m.size, m.comp⟩ :: mEntries (noff + m.name.length + 1) (doff + Spec.blockLen m) ms

theorem mEntries_length : ∀ (ms : List Spec.Member) (noff doff : Nat), (mEntries noff doff ms).length = ms.length
  | [], _, _ => rfl
  | m :: ms, noff, doff => by simp only [mEntries, List.length_cons, mEntries_length ms]

theorem nameTable_length_cons (m : Spec.Member) (ms : List Spec.Member) :
    (Spec.nameTable (m :: ms)).length = m.name.length + 1 + (Spec.nameTable ms).length := by
  rw [nameTable_cons, List.length_append, List.length_cons]; omega

theorem decEntries_entries : ∀ (ms : List Spec.Member) (noff doff j : Nat) (rest : Bytes),
    (∀ m ∈ ms, Spec.memberOk m = true) → Spec.offsetsOk doff ms = true →
    noff + (Spec.nameTable ms).length ≤ 4294967296 →
    decEntries (ms.length + j) (Spec.entries noff doff ms ++ rest) = mEntries noff doff ms ++ decEntries j rest
  | [], _, _, j, rest, _, _, _ => by simp [Spec.entries, mEntries]
  | m :: ms, noff, doff, j, rest, hm, ho, hn => by
    obtain ⟨-, -, hsz, hcp⟩ := (memberOk_iff m).mp (hm m (List.mem_cons_self ..))
    simp only [Spec.offsetsOk, Bool.and_eq_true, decide_eq_true_eq] at ho
    rw [nameTable_length_cons] at hn
    have e1 : (m :: ms).length + j = (ms.length + j) + 1 := by simp only [List.length_cons]; omega
    rw [e1, decEntries]
    simp only [Spec.entries, List.append_assoc, entrySize]
    rw [decEntry_enc _ _ _ _ (by omega) ho.1 hsz hcp, drop14_enc,
      decEntries_entries ms _ _ j rest (fun m' h' => hm m' (by simp [h'])) ho.2 (by omega)]
    rfl

theorem mEntries_nameOff : ∀ (ms : List Spec.Member) (noff doff : Nat),
    noff + (Spec.nameTable ms).length ≤ 4294967295 →
    ∀ e ∈ mEntries noff doff ms, e.nameOff ≠ invalidName
  | [], _, _, _, e, he => by simp [mEntries] at he
  | m :: ms, noff, doff, hn, e, he => by
    rw [nameTable_length_cons] at hn
    simp only [mEntries, List.mem_cons] at he
    rcases he with rfl | he
    · simp only [invalidName]; omega
    · exact mEntries_nameOff ms _ _ (by omega) e he

theorem mEntries_get : ∀ (ms : List Spec.Member) (noff doff i : Nat) (hi : i < ms.length),
    ∃ no, (mEntries noff doff ms)[i]? =
      some ⟨no, doff + ((ms.take i).map Spec.blockLen).sum, ms[i].size, ms[i].comp⟩
  | [], _, _, _, hi => by simp at hi
  | m :: ms, noff, doff, 0, _ => ⟨noff, by simp [mEntries]⟩
  | m :: ms, noff, doff, i + 1, hi => by
    obtain ⟨no, h⟩ := mEntries_get ms (noff + m.name.length + 1) (doff + Spec.blockLen m) i
      (by simpa using hi)
    refine ⟨no, ?_⟩
    simp only [mEntries, List.getElem?_cons_succ, List.take_succ_cons, List.map_cons, List.sum_cons,
      List.getElem_cons_succ]
    rw [h, Nat.add_assoc]

theorem countValid_append (es rest : List Entry) (h : ∀ e ∈ es, e.nameOff ≠ invalidName) :
    countValid (es ++ rest) = es.length + countValid rest := by
  induction es with
  | nil => simp
  | cons e es ih =>
    rw [List.cons_append, countValid, if_neg (h e (by simp)), ih (fun e' h' => h e' (by simp [h'])),
      List.length_cons]
    omega

theorem decEntry_take (b : Bytes) (n : Nat) (hn : 14 ≤ n) : decEntry (b.take n) = decEntry b := by
  unfold decEntry
  simp only [List.drop_take]
  rw [Codec.decU32_take _ _ (by omega), Codec.decU32_take _ _ (by omega), Codec.decU32_take _ _ (by omega),
    Codec.decU16_take _ _ (by omega)]

theorem decEntries_take : ∀ (k : Nat) (b : Bytes) (n : Nat), k * 14 ≤ n → decEntries k (b.take n) = decEntries k b
  | 0, _, _, _ => rfl
  | k + 1, b, n, hn => by
    simp only [decEntries, entrySize]
    rw [decEntry_take _ _ (by omega), List.drop_take, decEntries_take k _ _ (by omega)]

theorem decEntries_zero (b : Bytes) : decEntries 0 b = [] := rfl

theorem decEntries_unused (j u : Nat) (rest : Bytes) :
    countValid (decEntries (j + 1) ((List.replicate (u + 1) Spec.unusedEntry).flatten ++ rest)) = 0 := by
  rw [decEntries, countValid, if_pos]
  rw [List.replicate_succ, List.flatten_cons, List.append_assoc]
  unfold Spec.unusedEntry
  simp only [List.append_assoc]
  rw [decEntry_enc _ _ _ _ (by omega) (by omega) (by omega) (by omega)]
  rfl

/-- three section headers, the name table `N` behind its length, its padding `Z1`, the index section header, and whatever
    follows (`X`: entries, padding, blocks) -/
def layout (hl sl il : Nat) (N Z1 X : Bytes) : Bytes :=
  Spec.sec [86, 79, 76, 32] hl ++ (Spec.sec [118, 111, 108, 104] 0 ++ (Spec.sec [118, 111, 108, 115] sl
    ++ (encU32 N.length ++ (N ++ (Z1 ++ (Spec.sec [118, 111, 108, 105] il ++ X))))))

theorem layout_length (hl sl il : Nat) (N Z1 X : Bytes) :
    (layout hl sl il N Z1 X).length = 36 + N.length + Z1.length + X.length := by
  simp only [layout, List.length_append, Parser.encU32_length]
  rw [sec_length _ _ rfl, sec_length _ _ rfl, sec_length _ _ rfl, sec_length _ _ rfl]
  omega

section walk
variable (hl sl il : Nat) (N Z1 X : Bytes)

theorem layout_drop8 : (layout hl sl il N Z1 X).drop 8 = Spec.sec [118, 111, 108, 104] 0 ++ (Spec.sec [118, 111, 108, 115] sl
    ++ (encU32 N.length ++ (N ++ (Z1 ++ (Spec.sec [118, 111, 108, 105] il ++ X))))) :=
  drop_advance (p := 0) (s := Spec.sec [86, 79, 76, 32] hl) rfl rfl

theorem layout_drop16 : (layout hl sl il N Z1 X).drop 16 = Spec.sec [118, 111, 108, 115] sl
    ++ (encU32 N.length ++ (N ++ (Z1 ++ (Spec.sec [118, 111, 108, 105] il ++ X)))) :=
  drop_advance (layout_drop8 ..) rfl

theorem layout_drop24 : (layout hl sl il N Z1 X).drop 24 =
    encU32 N.length ++ (N ++ (Z1 ++ (Spec.sec [118, 111, 108, 105] il ++ X))) :=
  drop_advance (layout_drop16 ..) rfl

theorem layout_drop28 : (layout hl sl il N Z1 X).drop 28 = N ++ (Z1 ++ (Spec.sec [118, 111, 108, 105] il ++ X)) :=
  drop_advance (layout_drop24 ..) rfl

variable (hZ : 4 + N.length + Z1.length = sl)
include hZ

theorem layout_dropI : (layout hl sl il N Z1 X).drop (24 + sl) = Spec.sec [118, 111, 108, 105] il ++ X :=
  drop_advance (drop_advance (layout_drop28 hl sl il N Z1 X) rfl) (by omega)

theorem layout_dropE : (layout hl sl il N Z1 X).drop (24 + sl + 8) = X :=
  drop_advance (layout_dropI hl sl il N Z1 X hZ) rfl

end walk

theorem readIndex_fixed {file r : Bytes} {pos il : Nat} (h : file.drop pos = r) (hp : pos ≤ file.length)
    (hr : il / 14 * 14 ≤ r.length) (hI : il / 14 * 14 ≤ allocCap) :
    readIndex Cfg.fixed file pos il = .ok (decEntries (il / 14) r) := by
  unfold readIndex entrySize
  split
  · rw [if_neg (Nat.not_lt.mpr hI)]
    show readAt file pos (il / 14 * 14) >>= _ = _
    unfold copyInto
    rw [readAt_drop_take h hp hr, ok_bind, if_pos (by rw [List.length_take]; omega), ok_bind,
      decEntries_take _ _ _ (Nat.le_refl _)]
  · rw [show il / 14 = 0 by omega]; rfl

section
variable (hl sl il : Nat) (N Z1 X : Bytes) (hhl : hl < 2147483648) (hsl : sl < 2147483648)
  (hZ : 4 + N.length + Z1.length = sl) (hh : sl + il + 24 ≤ hl) (hfl : hl + 8 ≤ (layout hl sl il N Z1 X).length)
include hhl hsl hZ hh hfl

theorem openWith_layout (hil : il < 2147483648) (hN : N.length < allocCap) (hX : il / 14 * 14 ≤ X.length)
    (hI : il / 14 * 14 ≤ allocCap) (hcv : countValid (decEntries (il / 14) X) ≤ (splitNames N).length) :
    openWith Cfg.fixed (layout hl sl il N Z1 X) =
      .ok { file := layout hl sl il N Z1 X, names := splitNames N, entries := decEntries (il / 14) X,
            count := countValid (decEntries (il / 14) X) } := by
  have dec : decU32 (encU32 N.length) = N.length :=
    Codec.decU32_encU32' _ (by simp only [allocCap] at hN; omega)
  have hidx : (⟨hl, sl, il, encU32 N.length, N, decEntries (il / 14) X⟩ : Walk).idx = 24 + sl := by
    simp only [Walk.idx, dec, u32, W32]; omega
  refine openWith_eq_ok.mpr ⟨⟨hl, sl, il, encU32 N.length, N, decEntries (il / 14) X⟩, ?_, rfl⟩
  exact {
    vol := readTag_drop (p := 0) rfl rfl hhl
    whole := hfl
    volh := readTag_drop (layout_drop8 ..) rfl (by omega)
    vols := readTag_drop (layout_drop16 ..) rfl hsl
    room := by simp only [secSize]; omega
    len := readAt_drop (layout_drop24 ..) (by omega)
    cap := by rw [dec]; exact hN
    chars := by rw [dec]; exact readAt_drop (layout_drop28 ..) (by omega)
    voli := by rw [hidx]; exact readTag_drop (layout_dropI hl sl il N Z1 X hZ) rfl hil
    index := by rw [hidx]; exact readIndex_fixed (layout_dropE hl sl il N Z1 X hZ) (by omega) hX hI
    header := by simp only [u32, W32, headerExtra]; omega
    named := fun _ => hcv }

/-- the refusal the encoder's well-formedness does not exclude: a name table of `allocCap` bytes or more -/
theorem openWith_layout_alloc (cfg : Cfg) (hN : allocCap ≤ N.length) (hN32 : N.length < 4294967296) :
    openWith cfg (layout hl sl il N Z1 X) = .error (.err .alloc) := by
  have dec : decU32 (encU32 N.length) = N.length := Codec.decU32_encU32' _ hN32
  have r0 : readTag (layout hl sl il N Z1 X) 0 tagVOL = .ok hl := readTag_drop (p := 0) rfl rfl hhl
  have r8 : readTag (layout hl sl il N Z1 X) 8 tagVOLH = .ok 0 := readTag_drop (layout_drop8 ..) rfl (by omega)
  have r16 : readTag (layout hl sl il N Z1 X) 16 tagVOLS = .ok sl := readTag_drop (layout_drop16 ..) rfl hsl
  have r24 : readAt (layout hl sl il N Z1 X) 24 4 = .ok (encU32 N.length) := readAt_drop (layout_drop24 ..) (by omega)
  rw [openWith_eq, if_neg (by simp only [secSize]; omega), r0, ok_bind, if_neg (by simp only [secSize]; omega), r8, ok_bind,
    if_neg (fun h => h rfl), r16, ok_bind, if_neg (by simp only [secSize]; omega), r24, ok_bind, dec, if_pos hN]

end

end Op2.Vol
