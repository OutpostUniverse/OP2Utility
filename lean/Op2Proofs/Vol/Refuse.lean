import Op2Proofs.Vol.Create
import Op2Proofs.Vol.Search
/-!
VOL creation: refusals in ℕ (`Fits`, `blockOffset`), and the strictness of what is written.
-/
namespace Op2.Vol
open Op2 Op2.Str

theorem sorted_names_sortedW (files : List InFile) : SortedW id ((sortCI nameOf files).map nameOf) := by
  have := sortCI_sorted nameOf files
  unfold SortedW at *
  rw [List.pairwise_map]
  exact this

theorem nodup_names_iff (l : List InFile) : NoDupCI id (l.map nameOf) ↔ NoDupCI nameOf l := by
  unfold NoDupCI; rw [List.pairwise_map]; rfl

theorem adjDup_iff (files : List InFile) :
    hasAdjacentDup ((sortCI nameOf files).map nameOf) = true ↔ ¬ NoDupCI nameOf files := by
  rw [hasAdjacentDup_iff _ (sorted_names_sortedW files), nodup_names_iff, noDupCI_sortCI]

theorem plan_dup_refused (out : Bytes) (files : List InFile) (h : ¬ NoDupCI nameOf files) :
    plan out files = .error .refused := by
  rw [plan_eq, if_pos ((adjDup_iff files).mpr h)]

theorem createFs_refused (out : Bytes) (files : List InFile) (fs : Fs) (h : ∀ b, create out files ≠ .ok b) :
    createFs out files fs = (fs, .error .refused) := by
  unfold createFs
  cases hc : create out files with
  | ok b => exact absurd hc (h b)
  | error e => rw [create_refuses out files e hc]

def blockOffset (l : List InFile) (k : Nat) : Nat :=
  Spec.headerLen (descOf l) + ((l.take k).map (fun f => 8 + Spec.pad4 f.content.len)).sum

theorem offsFit_iff : ∀ (l : List InFile) (stl off : Nat),
    offsFit off (mkEntries l stl) ↔ ∀ k, k < l.length → off + ((l.take k).map (fun f => 8 + Spec.pad4 f.content.len)).sum ≤ uint32Max
  | [], _, _ => by simp [mkEntries, offsFit]
  | f :: fs, stl, off => by
    simp only [mkEntries, offsFit]
    rw [offsFit_iff fs]
    constructor
    · rintro ⟨h0, h1⟩ k hk
      cases k with
      | zero => simpa using h0
      | succ j =>
        have := h1 j (by simpa using hk)
        simp only [List.take_succ_cons, List.map_cons, List.sum_cons]
        omega
    · intro h
      refine ⟨by simpa using h 0 (by simp), ?_⟩
      intro j hj
      have := h (j + 1) (by simpa using hj)
      simp only [List.take_succ_cons, List.map_cons, List.sum_cons] at this
      omega

theorem offsetsOk_of_offsFit : ∀ (l : List InFile) (stl off : Nat), offsFit off (mkEntries l stl) →
    Spec.offsetsOk off (l.map memberOf) = true
  | [], _, _, _ => rfl
  | f :: fs, stl, off, h => by
    simp only [mkEntries, offsFit] at h
    simp only [List.map_cons, Spec.offsetsOk, Bool.and_eq_true, decide_eq_true_eq]
    refine ⟨by have := h.1; simp only [uint32Max] at this; omega, ?_⟩
    have := offsetsOk_of_offsFit fs _ _ h.2
    simpa [Spec.blockLen, memberOf, Content.toBytes_length, Nat.add_assoc] using this

/-- all the conditions under which `CreateArchive` must succeed, in ℕ -/
structure Fits (out : Bytes) (files : List InFile) : Prop where
  nodup : NoDupCI nameOf files
  small : ∀ f ∈ files, f.content.len < 2147483648
  header : Spec.headerLen (descOf (sortCI nameOf files)) < 2147483648
  offsets : ∀ k, k < files.length → blockOffset (sortCI nameOf files) k ≤ 4294967295
  notSelf : ∀ f ∈ files, Path.pathsAreEqual out f.path = false
  outNonempty : out ≠ []

theorem Fits.good {out : Bytes} {files : List InFile} (h : Fits out files) : Good out (sortCI nameOf files) where
  nodup := by
    cases hd : hasAdjacentDup ((sortCI nameOf files).map nameOf)
    · rfl
    · exact absurd h.nodup ((adjDup_iff files).mp hd)
  small := by
    intro f hf
    have := h.small f (mem_sortCI.mp hf)
    simp only [int32Max]; omega
  header := h.header
  fit := by
    rw [offsFit_iff]
    intro k hk
    have hl := length_sortCI nameOf files
    have := h.offsets k (by omega)
    simp only [blockOffset, uint32Max] at *; omega
  notSelf := by
    rw [List.any_eq_false]
    intro f hf
    rw [h.notSelf f (mem_sortCI.mp hf)]; simp
  outNonempty := by
    cases hout : out with
    | nil => exact absurd hout h.outNonempty
    | cons _ _ => rfl

def NameOk (n : Bytes) : Prop := ∀ x ∈ n, x ≠ 0 ∧ x ≠ 255

theorem descOf_strict (out : Bytes) (files : List InFile) (g : Good out (sortCI nameOf files))
    (hn : ∀ f ∈ files, NameOk (nameOf f)) : (descOf (sortCI nameOf files)).Strict := by
  have hs := sorted_names_sortedW files
  replace hn : ∀ f ∈ sortCI nameOf files, NameOk (nameOf f) := fun f hf => hn f (mem_sortCI.mp hf)
  generalize sortCI nameOf files = l at *
  have hnd : NoDupCI id (l.map nameOf) := by
    apply Classical.byContradiction
    intro hc
    have := hasAdjacentDup_complete _ hs hc
    rw [g.nodup] at this; simp at this
  have hinc : Spec.increasing (l.map nameOf) = true := by
    apply Spec.increasing_of_sortedS _ (hs.strict id hnd)
    intro n hn' x hx
    obtain ⟨f, hf, rfl⟩ := List.mem_map.mp hn'
    exact (hn f hf x hx).2
  have hmem : ∀ m ∈ l.map memberOf, Spec.memberOk m = true := by
    intro m hm
    obtain ⟨f, hf, rfl⟩ := List.mem_map.mp hm
    have h1 := g.small f hf
    simp only [int32Max] at h1
    refine (memberOk_iff _).mpr ⟨fun h0 => (hn f hf 0 h0).1 rfl, ?_, ?_, ?_⟩
    · rw [memberOf, Content.toBytes_length]; omega
    · show f.content.len < 4294967296; omega
    · show 256 < 65536; omega
  have hall : ∀ m ∈ l.map memberOf, m.comp = 256 ∧ m.size = m.payload.length := by
    intro m hm
    obtain ⟨f, hf, rfl⟩ := List.mem_map.mp hm
    exact ⟨rfl, (Content.toBytes_length _).symm⟩
  exact (strict_iff _).mpr ⟨(wf_iff _).mpr ⟨hmem, g.header, offsetsOk_of_offsFit _ _ _ g.fit, Or.inl (Nat.zero_lt_succ 13)⟩,
    rfl, rfl, hall, descOf_names l ▸ hinc⟩

end Op2.Vol
