import Op2Proofs.Path.Split
import Op2Proofs.SortLemmas
import Op2Proofs.Vol.Search
import Op2Proofs.Vol.Reader
/-!
`View.index` / `View.contains` model the loop of `ArchiveFile::GetIndex`: the first `i < count` with
`Path.pathsAreEqual (name i) query`.  The path key of a *plain* name (non-empty, no `/`, not `.`) is its upper-casing
(`Path.pathKey_plain`), and `toupper` stored back into a `char` and `tolower` as an `int` identify the same bytes
(`Str.upperB_eq_iff`), so on plain names `pathsAreEqual` is `StringUtility::IsEqual` (`eqCI`).
-/
namespace Op2.Vol
open Op2 Op2.Str Op2.Except

def PlainName (n : Bytes) : Prop := n ≠ [] ∧ Path.sep ∉ n ∧ n ≠ [Path.dot]

theorem PlainName.plain {n : Bytes} (h : PlainName n) : Path.Plain n := ⟨h.1, h.2.1⟩

theorem lowerI_upperB (x : UInt8) : lowerI (upperB x) = lowerI x := Str.lowerI_upperB x

theorem sep_mem_of_eqCI (a b : Bytes) (h : eqCI a b = true) (hm : Path.sep ∈ a) : Path.sep ∈ b := by
  have hmap := (eqF_iff_map lowerI a b).mp h
  obtain ⟨y, hy, e⟩ := List.mem_map.mp (hmap ▸ List.mem_map_of_mem (f := lowerI) hm)
  rwa [(lowerI_eq_low (by decide)).mp e] at hy

theorem plain_of_eqCI (a b : Bytes) (he : eqCI a b = true) (hb : PlainName b) : PlainName a := by
  obtain ⟨hne, hs, hd⟩ := hb
  have hmap := (eqF_iff_map lowerI a b).mp he
  refine ⟨?_, fun h => hs (sep_mem_of_eqCI a b he h), ?_⟩
  · rintro rfl
    exact hne (List.map_eq_nil_iff.mp hmap.symm)
  · rintro rfl
    obtain ⟨y, rfl, e⟩ := List.map_eq_singleton_iff.mp hmap.symm
    exact hd (by rw [(lowerI_eq_low (by decide)).mp e])

theorem pathsAreEqual_plain (a b : Bytes) (ha : PlainName a) (hb : PlainName b) :
    Path.pathsAreEqual a b = eqCI a b := by
  rw [Bool.eq_iff_iff, Path.pathsAreEqual_iff, Path.pathKey_plain a ha.plain ha.2.2, Path.pathKey_plain b hb.plain hb.2.2,
    List.cons.injEq, and_iff_left rfl, toUpper_eq_iff]

theorem lowerI_flipCase (b : UInt8) : lowerI (Spec.flipCase b) = lowerI b := by
  have := lowerI_cases b
  have := lowerI_cases (Spec.flipCase b)
  rcases Spec.flipCase_cases b with _ | _ | ⟨_, _, h⟩
  · omega
  · omega
  · rw [h]

theorem eqCI_anyCase (mask : List Bool) (n : Bytes) : eqCI (Spec.anyCase mask n) n = true :=
  Spec.eqF_anyCase lowerI lowerI_flipCase mask n

theorem anyCase_plain (mask : List Bool) (n : Bytes) (h : PlainName n) : PlainName (Spec.anyCase mask n) :=
  plain_of_eqCI _ _ (eqCI_anyCase mask n) h

theorem name_ok (v : View) (hc : v.count = v.names.length) (j : Nat) (hj : j < v.names.length) :
    v.name j = .ok v.names[j] :=
  View.name_eq_ok.mpr ⟨by omega, List.getElem?_eq_getElem hj⟩

/-- the loop of `GetIndex` passes over the names that do not match: from `j` it arrives at `i` with the fuel it has left -/
theorem find_skip (v : View) (hc : v.count = v.names.length) (q : Bytes) (i : Nat) (hi : i ≤ v.names.length)
    (hlt : ∀ k (hk : k < i), Path.pathsAreEqual (v.names[k]'(by omega)) q = false) (fuel : Nat) :
    ∀ (n j : Nat), j + n = i → v.find q (fuel + n) j = v.find q fuel i
  | 0, j, h => by rw [← h]; rfl
  | n + 1, j, h => by
    rw [← Nat.add_assoc, View.find_succ, name_ok v hc j (by omega), ok_bind, hlt j (by omega), if_neg Bool.false_ne_true,
      find_skip v hc q i hi hlt fuel n (j + 1) (by omega)]

theorem find_finds (v : View) (hc : v.count = v.names.length) (q : Bytes) (i : Nat) (hi : i < v.names.length)
    (hlt : ∀ k (hk : k < i), Path.pathsAreEqual (v.names[k]'(by omega)) q = false)
    (hat : Path.pathsAreEqual v.names[i] q = true) : v.find q v.count 0 = .ok (some i) := by
  rw [show v.count = v.count - i - 1 + 1 + i by omega, find_skip v hc q i (Nat.le_of_lt hi) hlt _ i 0 (Nat.zero_add i),
    View.find_succ, name_ok v hc i hi, ok_bind, if_pos hat]

theorem find_absent (v : View) (hc : v.count = v.names.length) (q : Bytes)
    (hno : ∀ k (hk : k < v.names.length), Path.pathsAreEqual v.names[k] q = false) : v.find q v.count 0 = .ok none := by
  rw [← Nat.zero_add v.count, find_skip v hc q v.count (Nat.le_of_eq hc) (fun k hk => hno k (by omega)) 0 v.count 0
    (Nat.zero_add _)]
  rfl

theorem index_finds (v : View) (hc : v.count = v.names.length) (hp : ∀ n ∈ v.names, PlainName n)
    (hn : NoDupCI id v.names) (i : Nat) (hi : i < v.names.length) (q : Bytes) (hq : PlainName q)
    (he : eqCI q v.names[i] = true) : v.index q = .ok i ∧ v.contains q = .ok true := by
  have hpk : ∀ k (hk : k < v.names.length), Path.pathsAreEqual v.names[k] q = eqCI v.names[k] q :=
    fun k hk => pathsAreEqual_plain _ _ (hp _ (List.getElem_mem hk)) hq
  have hat : Path.pathsAreEqual v.names[i] q = true := by
    rw [hpk i hi, eqCI, eqF_comm]; exact he
  have hlt : ∀ k (hk : k < i), Path.pathsAreEqual (v.names[k]'(by omega)) q = false := by
    intro k hk
    have hkl : k < v.names.length := by omega
    rw [hpk k hkl, Bool.eq_false_iff]
    intro hx
    have h2 : eqCI v.names[k] v.names[i] = false := List.pairwise_iff_getElem.mp hn k i hkl hi hk
    exact Bool.false_ne_true (h2.symm.trans (eqF_trans lowerI _ _ _ hx he))
  have hf := find_finds v hc q i hi hlt hat
  unfold View.index View.contains
  rw [hf]
  exact ⟨rfl, rfl⟩

theorem index_any_case (v : View) (hc : v.count = v.names.length) (hp : ∀ n ∈ v.names, PlainName n)
    (hn : NoDupCI id v.names) (i : Nat) (hi : i < v.names.length) (mask : List Bool) :
    v.index (Spec.anyCase mask v.names[i]) = .ok i ∧ v.contains (Spec.anyCase mask v.names[i]) = .ok true :=
  index_finds v hc hp hn i hi _ (anyCase_plain mask _ (hp _ (List.getElem_mem hi))) (eqCI_anyCase mask _)

theorem index_absent (v : View) (hc : v.count = v.names.length) (hp : ∀ n ∈ v.names, PlainName n)
    (q : Bytes) (hq : PlainName q) (hno : ∀ n ∈ v.names, eqCI q n = false) :
    v.index q = .error (.err .format) ∧ v.contains q = .ok false := by
  have hno' : ∀ k (hk : k < v.names.length), Path.pathsAreEqual v.names[k] q = false := by
    intro k hk
    rw [pathsAreEqual_plain _ _ (hp _ (List.getElem_mem hk)) hq, eqCI, eqF_comm]
    exact hno _ (List.getElem_mem hk)
  have hf := find_absent v hc q hno'
  unfold View.index View.contains
  rw [hf]
  exact ⟨rfl, rfl⟩

example : PlainName [97, 46, 116] := by
  refine ⟨by decide, by decide, by decide⟩
example : ¬ PlainName [97, 47, 116] := fun h => h.2.1 (by decide)
example : Path.pathsAreEqual [97] [65] = true := by decide
example : Path.pathsAreEqual [97, 46, 116] [65, 46, 84] = eqCI [97, 46, 116] [65, 46, 84] :=
  pathsAreEqual_plain _ _ ⟨by decide, by decide, by decide⟩ ⟨by decide, by decide, by decide⟩

def exView : View := { file := [], names := [[97, 46, 116], [66]], entries := [], count := 2 }

theorem exView_plain : ∀ n ∈ exView.names, PlainName n := by
  intro n hn
  simp only [exView, List.mem_cons, List.not_mem_nil, or_false] at hn
  rcases hn with e | e <;> subst e <;> exact ⟨by decide, by decide, by decide⟩

example : exView.index [65, 46, 84] = .ok 0 ∧ exView.contains [65, 46, 84] = .ok true :=
  index_finds exView rfl exView_plain
    (by unfold NoDupCI exView; decide) 0 (by decide) _ ⟨by decide, by decide, by decide⟩ (by decide)
example : exView.index (Spec.anyCase [true] [66]) = .ok 1 :=
  (index_any_case exView rfl exView_plain (by unfold NoDupCI exView; decide) 1 (by decide) [true]).1
example : exView.index [99] = .error (.err .format) ∧ exView.contains [99] = .ok false :=
  index_absent exView rfl exView_plain _ ⟨by decide, by decide, by decide⟩
    (by intro n hn
        simp only [exView, List.mem_cons, List.not_mem_nil, or_false] at hn
        rcases hn with e | e <;> subst e <;> decide)

end Op2.Vol
