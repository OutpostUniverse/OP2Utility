import Op2Model.Basic
/-!
# The little-endian codecs of `Op2Model.Basic`

Round trips (decode of encode, encode of decode) and bounds of `encU8/16/32` and `decU16/32`; the idiom
`b.drop p = s ++ r` for "`b` holds `s` at offset `p`" with its five lemmas; the `i`-th piece of a `flatMap`.
-/
namespace Op2.Parser
open Op2

theorem decU16_encU16 (v : Nat) (h : v < 65536) (rest : Bytes) : decU16 (encU16 v ++ rest) = v := by
  simp only [encU16, decU16, List.cons_append, List.nil_append, UInt8.toNat_ofNat']
  rw [Nat.mod_eq_of_lt (Nat.div_lt_of_lt_mul h : v / 256 < 256)]
  exact Nat.mod_add_div v 256

theorem decU32_encU32 (v : Nat) (h : v < 4294967296) (rest : Bytes) : decU32 (encU32 v ++ rest) = v := by
  have q2 : v / 65536 = v / 256 / 256 := (Nat.div_div_eq_div_mul v 256 256).symm
  have q3 : v / 16777216 = v / 256 / 256 / 256 := by rw [Nat.div_div_eq_div_mul, Nat.div_div_eq_div_mul]
  have h4 : v / 16777216 < 256 := Nat.div_lt_of_lt_mul h
  simp only [encU32, decU32, List.cons_append, List.nil_append, UInt8.toNat_ofNat', Nat.mod_eq_of_lt h4]
  rw [q2, q3]
  -- each quotient is its low byte plus 256 times the next quotient; with the quotients and bytes as atoms the sum
  -- telescopes (`omega` on the goal as it stands, with its seven `/` and `%`, is twice as dear)
  have h1 := Nat.mod_add_div v 256
  have h2 := Nat.mod_add_div (v / 256) 256
  have h3 := Nat.mod_add_div (v / 256 / 256) 256
  generalize v / 256 / 256 / 256 = x3 at *
  generalize v / 256 / 256 % 256 = m2 at *
  generalize v / 256 / 256 = x2 at *
  generalize v / 256 % 256 = m1 at *
  generalize v / 256 = x1 at *
  generalize v % 256 = m0 at *
  omega

theorem encU16_length (v : Nat) : (encU16 v).length = 2 := rfl
theorem encU32_length (v : Nat) : (encU32 v).length = 4 := rfl

end Op2.Parser

namespace Op2.Codec
open Op2

theorem decU16_lt (b : Bytes) : decU16 b < 65536 := by
  unfold decU16
  split
  · rename_i a b _
    have := a.toNat_lt; have := b.toNat_lt
    omega
  · omega

theorem decU32_lt (b : Bytes) : decU32 b < 4294967296 := by
  unfold decU32
  split
  · rename_i a b c d _
    have := a.toNat_lt; have := b.toNat_lt; have := c.toNat_lt; have := d.toNat_lt
    omega
  · omega

theorem decU16_take (b : Bytes) (n : Nat) (hn : 2 ≤ n) : decU16 (b.take n) = decU16 b := by
  obtain ⟨m, rfl⟩ : ∃ m, n = m + 2 := ⟨n - 2, by omega⟩
  rcases b with _ | ⟨a0, _ | ⟨a1, t⟩⟩ <;> rfl

theorem decU32_take (b : Bytes) (n : Nat) (hn : 4 ≤ n) : decU32 (b.take n) = decU32 b := by
  obtain ⟨m, rfl⟩ : ∃ m, n = m + 4 := ⟨n - 4, by omega⟩
  rcases b with _ | ⟨a0, _ | ⟨a1, _ | ⟨a2, _ | ⟨a3, t⟩⟩⟩⟩ <;> rfl

theorem ofNat_eq_of_mod {n : Nat} {a : UInt8} (h : n % 256 = a.toNat) : UInt8.ofNat n = a :=
  UInt8.toNat_inj.mp (by rw [UInt8.toNat_ofNat']; exact h)

theorem add_mul_mod (a : UInt8) (y : Nat) : (a.toNat + 256 * y) % 256 = a.toNat := by
  rw [Nat.add_mul_mod_self_left, Nat.mod_eq_of_lt a.toNat_lt]

theorem add_mul_div (a : UInt8) (y : Nat) : (a.toNat + 256 * y) / 256 = y := by
  rw [Nat.add_mul_div_left _ _ (by decide : 0 < 256), Nat.div_eq_of_lt a.toNat_lt, Nat.zero_add]

theorem encU8_toNat (a : UInt8) : encU8 a.toNat = [a] := by
  simp only [encU8, List.cons.injEq, and_true]
  exact ofNat_eq_of_mod (Nat.mod_eq_of_lt a.toNat_lt)

theorem encU16_decU16 (a b : UInt8) (t : Bytes) : encU16 (decU16 (a :: b :: t)) = [a, b] := by
  simp only [encU16, decU16, List.cons.injEq, and_true]
  exact ⟨ofNat_eq_of_mod (add_mul_mod a _), ofNat_eq_of_mod (by rw [add_mul_div, Nat.mod_eq_of_lt b.toNat_lt])⟩

theorem encU32_decU32 (a b c d : UInt8) (t : Bytes) : encU32 (decU32 (a :: b :: c :: d :: t)) = [a, b, c, d] := by
  have e : decU32 (a :: b :: c :: d :: t) = a.toNat + 256 * (b.toNat + 256 * (c.toNat + 256 * d.toNat)) := by
    simp only [decU32]; omega
  have q2 : ∀ x : Nat, x / 65536 = x / 256 / 256 := fun x => (Nat.div_div_eq_div_mul x 256 256).symm
  have q3 : ∀ x : Nat, x / 16777216 = x / 256 / 256 / 256 := fun x => by
    rw [Nat.div_div_eq_div_mul, Nat.div_div_eq_div_mul]
  simp only [encU32, e, q2, q3, add_mul_div, List.cons.injEq, and_true]
  exact ⟨ofNat_eq_of_mod (add_mul_mod a _), ofNat_eq_of_mod (add_mul_mod b _), ofNat_eq_of_mod (add_mul_mod c _),
    ofNat_eq_of_mod (Nat.mod_eq_of_lt d.toNat_lt)⟩

theorem drop_encU8 (v : Nat) (r : Bytes) (k : Nat) : (encU8 v ++ r).drop (k + 1) = r.drop k := rfl
theorem drop_encU16 (v : Nat) (r : Bytes) (k : Nat) : (encU16 v ++ r).drop (k + 2) = r.drop k := rfl
theorem drop_encU32 (v : Nat) (r : Bytes) (k : Nat) : (encU32 v ++ r).drop (k + 4) = r.drop k := rfl

theorem encU32_decU32_drop (bs : Bytes) (k : Nat) (h : k + 4 ≤ bs.length) :
    encU32 (decU32 (bs.drop k)) ++ bs.drop (k + 4) = bs.drop k := by
  rw [← List.drop_drop]
  match bs.drop k, (by simpa using Nat.le_sub_of_add_le' h : 4 ≤ (bs.drop k).length) with
  | a :: b :: c :: d :: t, _ => rw [encU32_decU32]; rfl

theorem encU16_decU16_drop (bs : Bytes) (k : Nat) (h : k + 2 ≤ bs.length) :
    encU16 (decU16 (bs.drop k)) ++ bs.drop (k + 2) = bs.drop k := by
  rw [← List.drop_drop]
  match bs.drop k, (by simpa using Nat.le_sub_of_add_le' h : 2 ≤ (bs.drop k).length) with
  | a :: b :: t, _ => rw [encU16_decU16]; rfl

/-! "`b` holds `s` at offset `p`, and `r` behind it" is said `b.drop p = s ++ r`; where a string is given as
`pre ++ (s ++ r)`, `List.drop_left'` puts it in this form at `pre.length`. -/

section
variable {b s r : Bytes} {p : Nat}

-- the target position is an argument: left to unification (`?p + ?s.length =?= 56`) each use costs four times as much
theorem drop_advance {q : Nat} (h : b.drop p = s ++ r) (hq : p + s.length = q) : b.drop q = r := by
  rw [← hq, ← List.drop_drop, h, List.drop_left]

theorem take_of_drop {n : Nat} (h : b.drop p = s ++ r) (hn : s.length = n) : (b.drop p).take n = s := by
  rw [h, List.take_left' hn]

theorem length_of_drop (h : b.drop p = s ++ r) : b.length - p = s.length + r.length := by
  rw [← List.length_drop, h, List.length_append]

theorem decU32_of_drop {v : Nat} (h : b.drop p = encU32 v ++ r) (hv : v < 4294967296) : decU32 (b.drop p) = v := by
  rw [h, Parser.decU32_encU32 v hv r]

theorem decU16_of_drop {v : Nat} (h : b.drop p = encU16 v ++ r) (hv : v < 65536) : decU16 (b.drop p) = v := by
  rw [h, Parser.decU16_encU16 v hv r]
end

/-- the `i`-th piece of a concatenation stands at the sum of the lengths before it -/
theorem flatMap_drop_sum {α : Type} (f : α → Bytes) (L : List α) (i : Nat) (hi : i < L.length) (tail : Bytes) :
    (L.flatMap f ++ tail).drop ((L.take i).map fun x => (f x).length).sum
      = f L[i] ++ ((L.drop (i + 1)).flatMap f ++ tail) := by
  conv => lhs; arg 2; rw [← List.take_append_drop i L, ← List.getElem_cons_drop hi]
  rw [List.flatMap_append, List.flatMap_cons, List.append_assoc, List.append_assoc]
  exact List.drop_left' (by rw [List.length_flatMap])

theorem decU16_encU16' (v : Nat) (h : v < 65536) : decU16 (encU16 v) = v := by
  simpa using Parser.decU16_encU16 v h []
theorem decU32_encU32' (v : Nat) (h : v < 4294967296) : decU32 (encU32 v) = v := by
  simpa using Parser.decU32_encU32 v h []

theorem encU32_inj {a b : Nat} (ha : a < 4294967296) (hb : b < 4294967296) (h : encU32 a = encU32 b) : a = b := by
  have := congrArg decU32 h
  rwa [decU32_encU32' a ha, decU32_encU32' b hb] at this

theorem encU32_mod (v : Nat) : encU32 (v % W32) = encU32 v := by
  have e : ∀ a b : Nat, a % 256 = b % 256 → UInt8.ofNat a = UInt8.ofNat b := fun a b h =>
    ofNat_eq_of_mod (h.trans UInt8.toNat_ofNat'.symm)
  have d : ∀ b : Nat, b * 256 ∣ 4294967296 → v % 4294967296 / b % 256 = v / b % 256 := fun b hd => by
    rw [← Nat.mod_mul_right_div_self, Nat.mod_mod_of_dvd _ hd, Nat.mod_mul_right_div_self]
  unfold encU32 W32
  rw [e _ _ (Nat.mod_mod_of_dvd v (by decide : 256 ∣ 4294967296)), e _ _ (d 256 (by decide)),
    e _ _ (d 65536 (by decide)), e _ _ (d 16777216 (by decide))]

theorem zeros_drop (n k : Nat) : (zeros n).drop k = zeros (n - k) := by
  simp [zeros, List.drop_replicate]

theorem zeros_take (n k : Nat) : (zeros n).take k = zeros (min k n) := by
  simp [zeros, List.take_replicate]

theorem zeros_length (n : Nat) : (zeros n).length = n := List.length_replicate

theorem flatMap_length_const {α β : Type} {f : α → List β} {k : Nat} (l : List α) (h : ∀ x ∈ l, (f x).length = k) :
    (l.flatMap f).length = k * l.length := by
  rw [List.length_flatMap, List.map_congr_left h, List.map_const', List.sum_replicate_nat, Nat.mul_comm]

end Op2.Codec
