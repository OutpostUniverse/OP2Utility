import Op2Proofs.Prt.Records
import Op2Proofs.ExceptChain
/-!
`ArtFile::Write`, characterised: `write a = .ok w` exactly when all its checks pass, and then `w = encFile a`; for
representable structures the checks are the cross-field rules.
-/
namespace Op2.Prt
open Op2

-- `hbind` restates `hcons` as a `>>=` chain: the two agree by unfolding a `match` on a variable, which smart unfolding does not do
set_option smartUnfolding false in
/-- a list written item by item, stopping at the first refusal (the shape of `writeFrames`, `writeAnims`) -/
theorem concat_eq_ok {α : Type} {w : α → Except Err Bytes} {W : List α → Except Err Bytes} {P : α → Prop} {enc : α → Bytes}
    (hnil : W [] = .ok [])
    (hcons : ∀ x xs, W (x :: xs) = match w x with
      | .error e => .error e
      | .ok b => match W xs with
        | .error e => .error e
        | .ok bs => .ok (b ++ bs))
    (hw : ∀ x b, w x = .ok b ↔ P x ∧ b = enc x) :
    ∀ xs b, W xs = .ok b ↔ (∀ x ∈ xs, P x) ∧ b = xs.flatMap enc
  | [], b => by
    rw [hnil, Except.ok.injEq]
    exact ⟨fun h => ⟨fun _ hx => (nomatch hx), h.symm⟩, fun h => h.2.symm⟩
  | x :: xs, b => by
    have hbind : W (x :: xs) = w x >>= fun b => W xs >>= fun bs => .ok (b ++ bs) := hcons x xs
    simp only [hbind, Except.bind_eq_ok, hw, concat_eq_ok hnil hcons hw xs, Except.ok.injEq, List.forall_mem_cons,
      List.flatMap_cons]
    constructor
    · rintro ⟨_, ⟨hp, rfl⟩, _, ⟨hps, rfl⟩, rfl⟩
      exact ⟨⟨hp, hps⟩, rfl⟩
    · rintro ⟨⟨hp, hps⟩, rfl⟩
      exact ⟨_, ⟨hp, rfl⟩, _, ⟨hps, rfl⟩, rfl⟩

theorem writeFrame_eq_ok (f : Frame) (b : Bytes) :
    writeFrame f = .ok b ↔ f.layerMeta.count = f.layers.length ∧ b = encFrame f := by
  simp only [writeFrame, Except.refuse_eq_ok, Decidable.not_not, Except.ok.injEq, eq_comm (a := b)]

theorem writeFrames_eq_ok : ∀ fs b, writeFrames fs = .ok b ↔
    (∀ f ∈ fs, f.layerMeta.count = f.layers.length) ∧ b = fs.flatMap encFrame :=
  concat_eq_ok rfl (fun _ _ => rfl) writeFrame_eq_ok

theorem writeAnim_eq_ok (an : Animation) (b : Bytes) : writeAnim an = .ok b ↔
    (an.frames.length ≤ M32 ∧ (∀ f ∈ an.frames, f.layerMeta.count = f.layers.length) ∧ an.unknownContainer.length ≤ M32) ∧
      b = encAnim an := by
  unfold writeAnim
  rw [Except.refuse_eq_ok, Nat.not_lt]
  constructor
  · rintro ⟨h1, h⟩
    cases hfs : writeFrames an.frames with
    | error e => rw [hfs] at h; cases h
    | ok fs =>
      rw [hfs] at h
      obtain ⟨h2, h⟩ := Except.refuse_eq_ok.mp h
      obtain ⟨hc, rfl⟩ := (writeFrames_eq_ok _ _).mp hfs
      exact ⟨⟨h1, hc, Nat.not_lt.mp h2⟩, (Except.ok.inj h).symm⟩
  · rintro ⟨⟨h1, hc, h2⟩, e⟩
    subst e
    rw [(writeFrames_eq_ok _ _).mpr ⟨hc, rfl⟩]
    exact ⟨h1, Except.refuse_eq_ok.mpr ⟨Nat.not_lt.mpr h2, rfl⟩⟩

theorem writeAnims_eq_ok : ∀ ans b, writeAnims ans = .ok b ↔
    (∀ an ∈ ans, an.frames.length ≤ M32 ∧ (∀ f ∈ an.frames, f.layerMeta.count = f.layers.length) ∧
      an.unknownContainer.length ≤ M32) ∧ b = ans.flatMap encAnim :=
  concat_eq_ok rfl (fun _ _ => rfl) writeAnim_eq_ok

theorem write_eq_ok (a : ArtFile) (w : Bytes) : write a = .ok w ↔
    ((∀ im ∈ a.imageMetas, imageOk a.palettes.length im = true) ∧ a.palettes.length ≤ M32 ∧ a.imageMetas.length ≤ M32 ∧
      a.animations.length ≤ M32 ∧ totalFrames a.animations ≤ M32 ∧ totalLayers a.animations ≤ M32 ∧
      ∀ an ∈ a.animations, an.frames.length ≤ M32 ∧ (∀ f ∈ an.frames, f.layerMeta.count = f.layers.length) ∧
        an.unknownContainer.length ≤ M32) ∧ w = encFile a := by
  simp only [write, Except.refuse_eq_ok, Bool.not_eq_true', Bool.not_eq_false, List.all_eq_true, Nat.not_lt, gt_iff_lt]
  constructor
  · rintro ⟨h1, h2, h3, h4, h5, h6, h⟩
    cases han : writeAnims a.animations with
    | error e => rw [han] at h; cases h
    | ok ans =>
      rw [han] at h
      obtain ⟨hp, rfl⟩ := (writeAnims_eq_ok _ _).mp han
      exact ⟨⟨h1, h2, h3, h4, h5, h6, hp⟩, (Except.ok.inj h).symm⟩
  · rintro ⟨⟨h1, h2, h3, h4, h5, h6, hp⟩, e⟩
    subst e
    rw [(writeAnims_eq_ok _ _).mpr ⟨hp, rfl⟩]
    exact ⟨h1, h2, h3, h4, h5, h6, rfl⟩

theorem write_ok_counts {a : ArtFile} {w : Bytes} (h : write a = .ok w) :
    ∀ an ∈ a.animations, ∀ f ∈ an.frames, f.layerMeta.count = f.layers.length :=
  fun an han => (((write_eq_ok a w).mp h).1.2.2.2.2.2.2 an han).2.1

theorem write_eq_ok_of_rep {a : ArtFile} (hr : a.Rep) (w : Bytes) : write a = .ok w ↔ rules a ∧ w = encFile a := by
  have hM : ∀ n, n < W32 → n ≤ M32 := fun n h => Nat.le_of_lt_succ h
  rw [write_eq_ok, rules, imageOk_all_iff hr.image]
  constructor
  · rintro ⟨⟨hv, _, _, _, _, _, hans⟩, rfl⟩
    exact ⟨⟨hv, fun an han => (hans an han).2.1⟩, rfl⟩
  · rintro ⟨⟨hv, hc⟩, rfl⟩
    exact ⟨⟨hv, hM _ hr.1, hM _ hr.2.2.2.1, hM _ hr.2.2.2.2.2.2.1, hM _ hr.totalFrames_lt, hM _ hr.totalLayers_lt,
      fun an han => ⟨hM _ (hr.anim an han).frames_lt, hc an han, hM _ (hr.anim an han).ucs_lt⟩⟩, rfl⟩

theorem write_of_wf {a : ArtFile} (h : Spec.WF a) : write a = .ok (encFile a) :=
  (write_eq_ok_of_rep h.1 _).mpr ⟨h.2, rfl⟩

end Op2.Prt
