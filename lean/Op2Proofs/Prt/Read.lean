import Op2Proofs.Prt.Records
/-!
Every parser of the PRT reader is `Exact`; for `readFull` the valid values are the well-formed structures (`Spec.WF`) with
any valid palette headers — the statement the C10 and C11 theorems are corollaries of.  Each proof (but that of the
two-byte `optP`) inverts the parser bind by bind (`→`) and runs it on the encoding (`←`).
-/
namespace Op2.Prt
open Op2 Op2.Parser Op2.Codec

theorem exact_optP (fl : Bool) :
    Exact (optP fl) (fun o => encOpt fl o.1 o.2) (fun o => o.1 < 256 ∧ o.2 < 256 ∧ (fl = false → o.1 = 0 ∧ o.2 = 0)) := by
  intro xs o rest
  cases fl
  · simp only [optP, encOpt, Bool.false_eq_true, if_false, pure_eq_ok, List.nil_append, forall_const]
    constructor
    · rintro ⟨rfl, rfl⟩; exact ⟨⟨by omega, by omega, rfl, rfl⟩, rfl⟩
    · rintro ⟨⟨_, _, h1, h2⟩, rfl⟩; exact ⟨Prod.ext h1 h2, rfl⟩
  · simp only [optP, encOpt, if_true, bind_eq_ok, pure_eq_ok, exact_u8 _ _ _]
    constructor
    · rintro ⟨x, _, ⟨hx, rfl⟩, y, _, ⟨hy, rfl⟩, rfl, rfl⟩
      exact ⟨⟨hx, hy, by simp⟩, by simp⟩
    · rintro ⟨⟨hx, hy, _⟩, rfl⟩
      exact ⟨o.1, _, ⟨hx, List.append_assoc ..⟩, o.2, _, ⟨hy, rfl⟩, rfl, rfl⟩

theorem exact_paletteP : Exact paletteP (fun hp => hp.1 ++ encPalette hp.2)
    (fun hp => hp.1.length = 28 ∧ paletteHeaderOk hp.1 = true ∧ hp.2.length = 256) := by
  intro xs hp rest
  constructor
  · intro h
    unfold paletteP at h
    obtain ⟨hd, _, hl, rfl, h1⟩ := take_of_bind h
    obtain ⟨hok, h2⟩ := guard_of_bind h1
    obtain ⟨cs, _, ⟨hcs, _⟩, rfl, h3⟩ := (exact_many exact_colorP _).of_bind h2
    obtain ⟨rfl, rfl⟩ := pure_eq_ok.mp h3
    exact ⟨⟨hl, hok, hcs⟩, by simp only [encPalette, List.append_assoc]⟩
  · rintro ⟨⟨hl, hok, hcs⟩, rfl⟩
    rw [List.append_assoc, paletteP, bind_take hl, bind_guard hok, encPalette,
      (exact_many exact_colorP 256).bind_eq ⟨hcs, fun _ _ => trivial⟩]
    rfl

theorem exact_frameP : Exact frameP encFrame (fun f => f.Rep ∧ f.layerMeta.count = f.layers.length) := by
  intro xs f rest
  constructor
  · intro h
    unfold frameP at h
    obtain ⟨m, _, hm, rfl, h1⟩ := exact_u8.of_bind h
    obtain ⟨ub, _, hub, rfl, h2⟩ := exact_u8.of_bind h1
    obtain ⟨o12, _, h12, rfl, h3⟩ := (exact_optP _).of_bind h2
    obtain ⟨o34, _, h34, rfl, h4⟩ := (exact_optP _).of_bind h3
    obtain ⟨ls, _, ⟨hl, hls⟩, rfl, h5⟩ := (exact_many exact_layerP _).of_bind h4
    obtain ⟨rfl, rfl⟩ := pure_eq_ok.mp h5
    exact ⟨⟨⟨metaOfByte_rep m, metaOfByte_rep ub, h12.1, h12.2.1, h34.1, h34.2.1, h12.2.2, h34.2.2, hls⟩, hl.symm⟩,
      by simp only [encFrame, metaToByte_metaOfByte m hm, metaToByte_metaOfByte ub hub, List.append_assoc]⟩
  · rintro ⟨⟨⟨h1, h2, ho1, ho2, ho3, ho4, hz1, hz2, hl⟩, hc⟩, rfl⟩
    simp only [frameP, encFrame, List.append_assoc]
    rw [exact_u8.bind_eq (metaOfByte_metaToByte _ h1).2, exact_u8.bind_eq (metaOfByte_metaToByte _ h2).2,
      (metaOfByte_metaToByte _ h1).1, (metaOfByte_metaToByte _ h2).1,
      (exact_optP _).bind_eq (a := (f.optional1, f.optional2)) ⟨ho1, ho2, hz1⟩,
      (exact_optP _).bind_eq (a := (f.optional3, f.optional4)) ⟨ho3, ho4, hz2⟩,
      (exact_many exact_layerP _).bind_eq ⟨hc.symm, hl⟩]
    rfl

theorem exact_animP : Exact animP encAnim (fun an => an.Rep ∧ ∀ f ∈ an.frames, f.layerMeta.count = f.layers.length) := by
  intro xs an rest
  constructor
  · intro h
    unfold animP at h
    obtain ⟨hd, _, hl, rfl, h1⟩ := take_of_bind h
    obtain ⟨hg1, h2⟩ := guard_of_bind h1
    obtain ⟨frs, _, ⟨hfl, hfrs⟩, rfl, h3⟩ := (exact_many exact_frameP _).of_bind h2
    obtain ⟨nuc, _, hnuc, rfl, h4⟩ := exact_u32.of_bind h3
    obtain ⟨hg2, h5⟩ := guard_of_bind h4
    obtain ⟨ucs, _, ⟨rfl, hucs⟩, rfl, h6⟩ := (exact_many exact_ucP _).of_bind h5
    obtain ⟨rfl, rfl⟩ := pure_eq_ok.mp h6
    rw [fits_iff] at hg1 hg2
    refine ⟨⟨⟨decU32_lt _, decU32_lt _, decU32_lt _, decU32_lt _, decU32_lt _, decU32_lt _, decU32_lt _,
      decU32_lt _, ?_, ?_, fun f hf => (hfrs f hf).1, hnuc, hg2, hucs⟩, fun f hf => (hfrs f hf).2⟩, ?_⟩
    · show frs.length < W32; rw [hfl]; exact decU32_lt _
    · show frs.length * _ ≤ _; rw [hfl]; exact hg1
    · show _ = (encAnimHead (animOfParts hd frs ucs) ++ encU32 frs.length ++ _ ++ encU32 ucs.length ++ _) ++ rest
      rw [hfl, animHead_enc_dec hd hl]
      simp only [List.append_assoc]
      rfl
  · -- `e` is kept as an equation: a `rfl` pattern would evaluate `encAnim an ++ rest`
    rintro ⟨⟨hrep, hc⟩, e⟩
    obtain ⟨_, _, _, _, _, _, _, _, hnf, hfa, hfr, hnu, hua, hur⟩ := id hrep
    obtain ⟨hdec, hcnt⟩ := animHead_dec_enc an an.frames.length hrep hnf
    have e' : encAnim an ++ rest = (encAnimHead an ++ encU32 an.frames.length) ++ (an.frames.flatMap encFrame ++
        (encU32 an.unknownContainer.length ++ (an.unknownContainer.flatMap encUC ++ rest))) := by
      simp only [encAnim, List.append_assoc]
    have hlen : (encAnimHead an ++ encU32 an.frames.length).length = 36 := by
      simp only [encAnimHead, List.length_append, encU32_length]
    rw [e, e', animP, bind_take hlen, hcnt, bind_guard (fits_iff.mpr hfa),
      (exact_many exact_frameP _).bind_eq ⟨rfl, fun f hf => ⟨hfr f hf, hc f hf⟩⟩, exact_u32.bind_eq hnu,
      bind_guard (fits_iff.mpr hua), (exact_many exact_ucP _).bind_eq ⟨rfl, hur⟩, hdec]
    rfl

theorem exact_readFull : Exact readFull (fun r => encFileH r.1 r.2) (fun r =>
    Spec.WF r.2 ∧ r.1.length = r.2.palettes.length ∧ ∀ h ∈ r.1, h.length = 28 ∧ paletteHeaderOk h = true) := by
  intro xs r rest
  constructor
  · intro h
    unfold readFull at h
    obtain ⟨sh, _, hshl, rfl, h1⟩ := take_of_bind h
    obtain ⟨htag, h2⟩ := guard_of_bind h1
    obtain ⟨hg0, h3⟩ := guard_of_bind h2
    obtain ⟨hps, _, ⟨hpl, hhps⟩, rfl, h4⟩ := (exact_many exact_paletteP _).of_bind h3
    obtain ⟨ni, _, hni, rfl, h5⟩ := exact_u32.of_bind h4
    obtain ⟨hg1, h6⟩ := guard_of_bind h5
    obtain ⟨ims, _, ⟨rfl, hims⟩, rfl, h7⟩ := (exact_many exact_imageP _).of_bind h6
    obtain ⟨hval, h8⟩ := guard_of_bind h7
    obtain ⟨na, _, hna, rfl, h9⟩ := exact_u32.of_bind h8
    obtain ⟨hg2, h10⟩ := guard_of_bind h9
    obtain ⟨tot, _, htl, rfl, h11⟩ := take_of_bind h10
    obtain ⟨ans, _, ⟨rfl, hans⟩, rfl, h12⟩ := (exact_many exact_animP _).of_bind h11
    obtain ⟨htot, h13⟩ := guard_of_bind h12
    obtain ⟨rfl, rfl⟩ := pure_eq_ok.mp h13
    rw [fits_iff] at hg0 hg1 hg2
    simp only [totalsOk, Bool.and_eq_true, beq_iff_eq] at htot
    obtain ⟨htf, htly⟩ := htot
    have hnp : (hps.map (·.2)).length = decU32 (sh.drop 4) := by rw [List.length_map, hpl]
    refine ⟨⟨⟨⟨?_, ?_, ?_, hni, hg1, hims, hna, hg2, fun an h => (hans an h).1, ?_, ?_, decU32_lt _⟩,
      ?_, fun an han => (hans an han).2⟩, by simp only [List.length_map], ?_⟩, ?_⟩
    · show (hps.map (·.2)).length < W32; rw [hnp]; exact decU32_lt _
    · show (hps.map (·.2)).length * _ ≤ _; rw [hnp]; exact hg0
    · intro p hp
      obtain ⟨x, hx, rfl⟩ := List.mem_map.mp hp
      exact (hhps x hx).2.2
    · show totalFrames ans < W32; rw [htf]; exact decU32_lt _
    · show totalLayers ans < W32; rw [htly]; exact decU32_lt _
    · have := (imagesOk_iff hims).mp hval
      simpa only [List.length_map] using this
    · intro h hh
      obtain ⟨x, hx, rfl⟩ := List.mem_map.mp hh
      exact ⟨(hhps x hx).1, (hhps x hx).2.1⟩
    · simp only [encFileH, ← List.zip_of_prod rfl rfl, hnp, htf, htly, List.append_assoc, totals_enc_dec tot htl,
        cpal_enc_dec sh hshl htag]
  · obtain ⟨hs, a⟩ := r
    rintro ⟨⟨⟨⟨hp1, hp2, hp3, hi1, hi2, hi3, ha1, ha2, ha3, htf, htl, hunk⟩, hrules⟩, hlen, hhs⟩, rfl⟩
    simp only at hlen hhs
    obtain ⟨ht1, ht2, ht3⟩ := totals_dec_enc _ _ _ htf htl hunk
    have hcp := cpal_dec_enc a.palettes.length hp1
    have hzl : (hs.zip a.palettes).length = a.palettes.length := by rw [List.length_zip, hlen, Nat.min_self]
    have hpal : (hs.zip a.palettes).length = a.palettes.length ∧ ∀ x ∈ hs.zip a.palettes,
        x.1.length = 28 ∧ paletteHeaderOk x.1 = true ∧ x.2.length = 256 :=
      ⟨hzl, fun x hx =>
        ⟨(hhs _ (List.of_mem_zip hx).1).1, (hhs _ (List.of_mem_zip hx).1).2, hp3 _ (List.of_mem_zip hx).2⟩⟩
    have e : encFileH hs a ++ rest = (tagCPAL ++ encU32 a.palettes.length) ++
        ((hs.zip a.palettes).flatMap (fun hp => hp.1 ++ encPalette hp.2) ++
        (encU32 a.imageMetas.length ++ (a.imageMetas.flatMap encImage ++ (encU32 a.animations.length ++
          ((encU32 (totalFrames a.animations) ++ (encU32 (totalLayers a.animations) ++ encU32 a.unknownAnimationCount)) ++
            (a.animations.flatMap encAnim ++ rest)))))) := by
      simp only [encFileH, List.append_assoc]
    have h8 : (tagCPAL ++ encU32 a.palettes.length).length = 8 := rfl
    have h12 : (encU32 (totalFrames a.animations) ++ (encU32 (totalLayers a.animations) ++
        encU32 a.unknownAnimationCount)).length = 12 := rfl
    show readFull (encFileH hs a ++ rest) = _
    rw [e, readFull, bind_take h8, bind_guard hcp.1, hcp.2, bind_guard (fits_iff.mpr hp2),
      (exact_many exact_paletteP _).bind_eq hpal, exact_u32.bind_eq hi1, bind_guard (fits_iff.mpr hi2),
      (exact_many exact_imageP _).bind_eq ⟨rfl, hi3⟩, bind_guard (by rw [hzl]; exact (imagesOk_iff hi3).mpr hrules.1),
      exact_u32.bind_eq ha1, bind_guard (fits_iff.mpr ha2), bind_take h12,
      (exact_many exact_animP _).bind_eq ⟨rfl, fun an h => ⟨ha3 an h, hrules.2 an h⟩⟩,
      bind_guard (by simp only [totalsOk, ht1, ht2, beq_self_eq_true, Bool.and_self]), ht3,
      List.map_fst_zip (Nat.le_of_eq hlen), List.map_snd_zip (Nat.le_of_eq hlen.symm)]
    rfl

theorem readFull_eq_ok {b : Bytes} {hs : List Bytes} {a : ArtFile} {rest : Bytes} : readFull b = .ok ((hs, a), rest) ↔
    (Spec.WF a ∧ hs.length = a.palettes.length ∧ ∀ h ∈ hs, h.length = 28 ∧ paletteHeaderOk h = true) ∧
      b = encFileH hs a ++ rest :=
  exact_readFull _ _ _

theorem read_eq_ok {b : Bytes} {a : ArtFile} : read b = .ok a ↔ ∃ hs rest, readFull b = .ok ((hs, a), rest) := by
  unfold read
  cases readFull b with
  | error e => simp
  | ok r => exact ⟨fun h => ⟨r.1.1, r.2, by cases h; rfl⟩, fun ⟨_, _, h⟩ => by cases h; rfl⟩

theorem read_accepted {b : Bytes} {a : ArtFile} (h : read b = .ok a) : ∃ hs rest, Spec.WF a ∧
    hs.length = a.palettes.length ∧ (∀ h ∈ hs, h.length = 28 ∧ paletteHeaderOk h = true) ∧ b = encFileH hs a ++ rest ∧
    readFull b = .ok ((hs, a), rest) := by
  obtain ⟨hs, rest, hr⟩ := read_eq_ok.mp h
  obtain ⟨⟨hwf, hl, hh⟩, hb⟩ := readFull_eq_ok.mp hr
  exact ⟨hs, rest, hwf, hl, hh, hb, hr⟩

theorem read_wf {b : Bytes} {a : ArtFile} (h : read b = .ok a) : Spec.WF a :=
  let ⟨_, _, hwf, _⟩ := read_accepted h
  hwf

theorem canonical_valid (a : ArtFile) : (a.palettes.map fun _ => canonicalPaletteHeader).length = a.palettes.length ∧
    ∀ h ∈ a.palettes.map fun _ => canonicalPaletteHeader, h.length = 28 ∧ paletteHeaderOk h = true := by
  refine ⟨List.length_map _, fun h hh => ?_⟩
  obtain ⟨_, _, rfl⟩ := List.mem_map.mp hh
  exact ⟨rfl, by decide⟩

theorem readFull_encFile {a : ArtFile} (h : Spec.WF a) (rest : Bytes) :
    readFull (encFile a ++ rest) = .ok ((a.palettes.map fun _ => canonicalPaletteHeader, a), rest) :=
  readFull_eq_ok.mpr ⟨⟨h, canonical_valid a⟩, by rw [encFile_eq]⟩

theorem read_encFile {a : ArtFile} (h : Spec.WF a) : read (encFile a) = .ok a ∧ consumed (encFile a) = (encFile a).length := by
  have := readFull_encFile h []
  rw [List.append_nil] at this
  simp only [read, consumed, this, List.length_nil, Nat.sub_zero, and_self]

end Op2.Prt
