import Op2Model.Prt
/-! Follow-up operations on a loaded object never reach a `Fault`. -/
namespace Op2.Prt
open Op2

theorem idx_ok {α : Type} {v : List α} {i : Nat} (h : i < v.length) : idx v i = .ok v[i] := by
  unfold idx; simp [List.getElem?_eq_getElem h]

theorem slice_ok {b : Bytes} {off len : Nat} (h : off + len ≤ b.length) : slice b off len = .ok ((b.drop off).take len) :=
  if_pos h

theorem bmpRows_ok (pixels : Bytes) (pitch rowBytes : Nat) (hrow : rowBytes ≤ pitch) :
    ∀ (n y : Nat), y * pitch + n * pitch ≤ pixels.length → ∃ r, bmpRows pixels pitch rowBytes y n = .ok r
  | 0, y, _ => ⟨[], by simp [bmpRows]⟩
  | n + 1, y, h => by
    rw [Nat.succ_mul] at h
    have hrow' := slice_ok (b := pixels) (off := y * pitch) (len := rowBytes) (by omega)
    obtain ⟨rest, hrest⟩ := bmpRows_ok pixels pitch rowBytes hrow n (y + 1) (by rw [Nat.succ_mul]; omega)
    exact ⟨_, by rw [bmpRows, hrow', hrest]⟩

theorem extractImage_index {a : ArtFile} {i : Nat} (h : a.imageMetas.length ≤ i) (pix : Bytes) :
    extractImage a i pix = .ok (.error .bounds) := by
  unfold extractImage verifyIndex
  rw [if_pos (by omega)]

theorem ok_ite {α : Type} {c : Prop} [Decidable c] {x y : FaultM α} (hx : ∃ r, x = .ok r) (hy : ¬ c → ∃ r, y = .ok r) :
    ∃ r, (if c then x else y) = .ok r := by
  by_cases h : c
  · rw [if_pos h]; exact hx
  · rw [if_neg h]; exact hy h

theorem bmpEmit_noFault (bitCount width height : Nat) (palette : List Color) (pixels : Bytes) :
    ∃ r, bmpEmit bitCount width height palette pixels = .ok r := by
  unfold bmpEmit
  refine ok_ite ⟨_, rfl⟩ fun _ => ok_ite ⟨_, rfl⟩ fun hlen => ?_
  have hlen : pixels.length = (((width * bitCount + 7) / 8 + 3) / 4 * 4) * height := Decidable.not_not.mp hlen
  obtain ⟨rows, hrows⟩ := bmpRows_ok pixels (((width * bitCount + 7) / 8 + 3) / 4 * 4) ((width * bitCount + 7) / 8)
    (by omega) height 0 (by rw [hlen, Nat.mul_comm]; simp [Nat.mul_comm])
  simp only [hrows]
  exact ⟨_, rfl⟩

/-- the hypotheses are what `Rep` and `rules` give for a loaded structure -/
theorem extractImage_noFault {a : ArtFile} (hpal : ∀ p ∈ a.palettes, p.length = 256)
    (hidx : ∀ im ∈ a.imageMetas, im.paletteIndex < a.palettes.length) (i : Nat) (pix : Bytes) :
    ∃ r, extractImage a i pix = .ok r := by
  by_cases hi : i < a.imageMetas.length
  · have hp := hidx _ (List.getElem_mem hi)
    have h2 : ¬ (2 ^ (if isShadow a.imageMetas[i] = true then 1 else 8) > 256) := by split <;> decide
    simp only [extractImage, verifyIndex, if_neg (Nat.not_le.mpr hi), idx_ok hi, idx_ok hp, hpal _ (List.getElem_mem hp),
      if_neg h2]
    refine ok_ite ⟨_, rfl⟩ fun _ => ok_ite ⟨_, rfl⟩ fun hb => ?_
    simp only [slice_ok (Nat.le_of_not_lt hb)]
    exact ok_ite ⟨_, rfl⟩ fun _ => ok_ite ⟨_, rfl⟩ fun _ => bmpEmit_noFault _ _ _ _ _
  · exact ⟨_, extractImage_index (Nat.le_of_not_lt hi) pix⟩

theorem frameCount_ok {a : ArtFile} {i : Nat} (h : i < a.animations.length) : frameCount a i = .ok a.animations[i].frames.length := by
  unfold frameCount; rw [idx_ok h]

theorem layerCount_ok {a : ArtFile} {i j : Nat} (h : i < a.animations.length) (hj : j < a.animations[i].frames.length) :
    layerCount a i j = .ok (a.animations[i].frames[j]).layers.length := by
  unfold layerCount; rw [idx_ok h]; simp only; rw [idx_ok hj]

end Op2.Prt
