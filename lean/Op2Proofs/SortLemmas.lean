import Op2Proofs.StrOrder
/-!
# Insertion sort by the case-insensitive order; uniqueness of the sorted arrangement;
completeness of adjacent-duplicate detection (C19)
-/
namespace Op2.Str
variable {α : Type} (key : α → Bytes)

/-- `SortedW`: no later element comes before an earlier one (what `std::sort` guarantees); `SortedS`: every earlier
    element comes before every later one.  They coincide on `NoDupCI` lists (`SortedW.strict`). -/
def SortedW (l : List α) : Prop := l.Pairwise (fun a b => ltCI (key b) (key a) = false)
def SortedS (l : List α) : Prop := l.Pairwise (fun a b => ltCI (key a) (key b) = true)
def NoDupCI (l : List α) : Prop := l.Pairwise (fun a b => eqCI (key a) (key b) = false)

theorem insertCI_perm (x : α) : ∀ l : List α, (insertCI key x l).Perm (x :: l)
  | [] => List.Perm.refl _
  | y :: ys => by
    simp only [insertCI]
    split
    · exact List.Perm.refl _
    · exact ((insertCI_perm x ys).cons y).trans (List.Perm.swap x y ys)

theorem sortCI_perm : ∀ l : List α, (sortCI key l).Perm l
  | [] => List.Perm.refl _
  | x :: xs => by
    show (insertCI key x (sortCI key xs)).Perm (x :: xs)
    exact (insertCI_perm key x _).trans ((sortCI_perm xs).cons x)

theorem mem_insertCI {x z : α} {l : List α} : z ∈ insertCI key x l ↔ z = x ∨ z ∈ l := by
  rw [(insertCI_perm key x l).mem_iff]; simp

theorem insertCI_sorted (x : α) : ∀ l : List α, SortedW key l → SortedW key (insertCI key x l)
  | [], _ => by simp [insertCI, SortedW]
  | y :: ys, h => by
    unfold SortedW at h ⊢
    rw [List.pairwise_cons] at h
    simp only [insertCI]
    split
    · rename_i hxy
      rw [List.pairwise_cons]
      refine ⟨?_, List.pairwise_cons.mpr h⟩
      intro z hz
      rcases List.mem_cons.mp hz with rfl | hz
      · exact ltF_asymm _ _ _ hxy
      · exact Bool.eq_false_iff.mpr fun hzx => Bool.false_ne_true ((h.1 z hz).symm.trans (ltF_trans _ _ _ _ hzx hxy))
    · rename_i hxy
      rw [List.pairwise_cons]
      refine ⟨?_, insertCI_sorted x ys h.2⟩
      intro z hz
      rcases (mem_insertCI key).mp hz with rfl | hz
      · simpa using hxy
      · exact h.1 z hz

theorem sortCI_sorted : ∀ l : List α, SortedW key (sortCI key l)
  | [] => by simp [sortCI, SortedW]
  | x :: xs => insertCI_sorted key x _ (sortCI_sorted xs)

theorem NoDupCI.perm {l l' : List α} (h : NoDupCI key l) (p : l.Perm l') : NoDupCI key l' := by
  unfold NoDupCI at *
  refine p.pairwise h ?_
  intro a b hab
  exact Bool.eq_false_iff.mpr fun h2 => Bool.false_ne_true (hab.symm.trans (eqF_symm _ _ _ h2))

theorem SortedW.strict {l : List α} (hs : SortedW key l) (hn : NoDupCI key l) : SortedS key l := by
  unfold SortedW NoDupCI SortedS at *
  induction l with
  | nil => exact List.Pairwise.nil
  | cons a l ih =>
    rw [List.pairwise_cons] at hs hn ⊢
    refine ⟨?_, ih hs.2 hn.2⟩
    intro b hb
    cases hab : ltCI (key a) (key b)
    · exact absurd ((incomp_iff_eqF lowerI (key a) (key b)).mp ⟨hab, hs.1 b hb⟩) (Bool.eq_false_iff.mp (hn.1 b hb))
    · rfl

theorem SortedS.unique {l₁ l₂ : List α} (h₁ : SortedS key l₁) (h₂ : SortedS key l₂) (p : l₁.Perm l₂) : l₁ = l₂ := by
  refine List.Perm.eq_of_pairwise ?_ h₁ h₂ p
  intro a b _ _ hab hba
  exact absurd hba (Bool.eq_false_iff.mp (ltF_asymm _ _ _ hab))

theorem mem_sortCI {key : α → Bytes} {x : α} {l : List α} : x ∈ sortCI key l ↔ x ∈ l := (sortCI_perm key l).mem_iff

theorem length_sortCI (l : List α) : (sortCI key l).length = l.length := (sortCI_perm key l).length_eq

theorem noDupCI_sortCI {l : List α} : NoDupCI key (sortCI key l) ↔ NoDupCI key l :=
  ⟨fun h => h.perm key (sortCI_perm key l), fun h => h.perm key (sortCI_perm key l).symm⟩

theorem sortCI_sortedS {l : List α} (hn : NoDupCI key l) : SortedS key (sortCI key l) :=
  (sortCI_sorted key l).strict key ((noDupCI_sortCI key).mpr hn)

/-- on duplicate-free input the model's insertion sort is a faithful stand-in for `std::sort` (whose output is some
    weakly sorted permutation) -/
theorem sorted_perm_eq_sortCI {l s : List α} (p : s.Perm l) (hs : SortedW key s) (hn : NoDupCI key l) :
    s = sortCI key l :=
  (hs.strict key (hn.perm key p.symm)).unique key (sortCI_sortedS key hn) (p.trans (sortCI_perm key l).symm)

theorem sortCI_perm_invariant {l₁ l₂ : List α} (p : l₁.Perm l₂) (hn : NoDupCI key l₁) :
    sortCI key l₁ = sortCI key l₂ :=
  sorted_perm_eq_sortCI key ((sortCI_perm key l₁).trans p) (sortCI_sorted key l₁) (hn.perm key p)

theorem insertCI_map {α β : Type} (g : α → β) (key : β → Bytes) (x : α) :
    ∀ l : List α, (insertCI (fun a => key (g a)) x l).map g = insertCI key (g x) (l.map g)
  | [] => rfl
  | y :: ys => by
    simp only [insertCI, List.map_cons]
    split
    · rfl
    · rw [List.map_cons, insertCI_map g key x ys]

theorem sortCI_map {α β : Type} (g : α → β) (key : β → Bytes) :
    ∀ l : List α, (sortCI (fun a => key (g a)) l).map g = sortCI key (l.map g)
  | [] => rfl
  | x :: xs => by
    have ih := sortCI_map g key xs
    unfold sortCI at ih ⊢
    rw [List.foldr_cons, insertCI_map, ih, List.map_cons, List.foldr_cons]

theorem sortCI_sortedW_of_compat {α : Type} (key key' : α → Bytes) (l : List α)
    (h : ∀ s ∈ l, ∀ t ∈ l, ltCI (key t) (key s) = false → ltCI (key' t) (key' s) = false) :
    SortedW key' (sortCI key l) :=
  (sortCI_sorted key l).imp_of_mem fun hs ht => h _ (mem_sortCI.mp hs) _ (mem_sortCI.mp ht)

theorem hasAdjacentDup_sound : ∀ l : List Bytes, hasAdjacentDup l = true → ¬ NoDupCI id l
  | [], h => by simp [hasAdjacentDup] at h
  | [_], h => by simp [hasAdjacentDup] at h
  | a :: b :: rest, h => by
    simp only [hasAdjacentDup, Bool.or_eq_true] at h
    intro hn
    unfold NoDupCI at hn
    rw [List.pairwise_cons] at hn
    rcases h with h | h
    · exact absurd h (Bool.eq_false_iff.mp (hn.1 b (by simp)))
    · exact hasAdjacentDup_sound (b :: rest) h hn.2

theorem hasAdjacentDup_complete : ∀ l : List Bytes, SortedW id l → ¬ NoDupCI id l → hasAdjacentDup l = true
  | [], _, h => by exact absurd (List.Pairwise.nil) h
  | [_], _, h => by exact absurd (List.pairwise_singleton _ _) h
  | a :: b :: rest, hs, h => by
    simp only [hasAdjacentDup, Bool.or_eq_true]
    unfold SortedW at hs
    rw [List.pairwise_cons] at hs
    by_cases hab : eqCI a b = true
    · exact Or.inl hab
    · right
      apply hasAdjacentDup_complete (b :: rest) hs.2
      intro hn
      apply h
      unfold NoDupCI at hn ⊢
      rw [List.pairwise_cons]
      refine ⟨?_, hn⟩
      intro c hc
      simp only [id]
      rcases List.mem_cons.mp hc with rfl | hc
      · simpa using hab
      · -- a ~ c with b between them would force a ~ b
        cases hac : eqCI a c
        · rfl
        · exfalso
          have hba : ltCI b a = false := hs.1 b (by simp)
          have hcb : ltCI c b = false := by
            have := hs.2; rw [List.pairwise_cons] at this; exact this.1 c hc
          cases hab2 : ltCI a b
          · exact hab ((incomp_iff_eqF lowerI a b).mp ⟨hab2, hba⟩)
          · exact absurd (ltF_of_eqF_left lowerI a b c hab2 hac) (Bool.eq_false_iff.mp hcb)

theorem hasAdjacentDup_iff (l : List Bytes) (hs : SortedW id l) : hasAdjacentDup l = true ↔ ¬ NoDupCI id l :=
  ⟨hasAdjacentDup_sound l, hasAdjacentDup_complete l hs⟩

end Op2.Str
