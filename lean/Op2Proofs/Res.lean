import Op2Model.Res
/-! `allOfType`'s fold over the archives is `addOfType` over all member names at once (`foldl_addOfType`), so one
induction (`addOfType_spec`) gives the three clauses of C17. -/
namespace Op2.Res
open Op2 Op2.Path

theorem find?_cases {α : Type} (p : α → Bool) (l : List α) :
    (l.find? p = none ∧ ∀ a ∈ l, p a = false) ∨ ∃ a, l.find? p = some a ∧ a ∈ l ∧ p a = true := by
  cases hf : l.find? p with
  | none => exact Or.inl ⟨rfl, fun a ha => by simpa using List.find?_eq_none.mp hf a ha⟩
  | some a => exact Or.inr ⟨a, rfl, List.mem_of_find?_eq_some hf, List.find?_some hf⟩

theorem isDup_mono {cur cur' : List Bytes} (h : ∀ x ∈ cur, x ∈ cur') {n : Bytes} (hd : isDup cur n = true) :
    isDup cur' n = true := by
  unfold isDup at hd ⊢
  rw [List.any_eq_true] at hd ⊢
  obtain ⟨c, hc1, hc2⟩ := hd
  exact ⟨c, h c hc1, hc2⟩

theorem addOfType_spec (ext : Bytes) : ∀ (ns cur : List Bytes),
    (∀ x ∈ cur, x ∈ addOfType ext cur ns) ∧
    (∀ x ∈ addOfType ext cur ns, x ∈ cur ∨ (x ∈ ns ∧ extensionMatches x ext = true)) ∧
    (∀ x ∈ ns, extensionMatches x ext = true → x ∈ addOfType ext cur ns ∨ isDup (addOfType ext cur ns) x = true) := by
  intro ns
  induction ns with
  | nil =>
    intro cur
    exact ⟨fun x h => h, fun x h => Or.inl h, fun x h => by simp at h⟩
  | cons n ns ih =>
    intro cur
    simp only [addOfType]
    by_cases hc : (extensionMatches n ext && !isDup cur n) = true
    · rw [if_pos hc]
      obtain ⟨i1, i2, i3⟩ := ih (cur ++ [n])
      have hm : extensionMatches n ext = true := by
        simp only [Bool.and_eq_true] at hc; exact hc.1
      refine ⟨fun x h => i1 x (List.mem_append_left _ h), ?_, ?_⟩
      · intro x hx
        rcases i2 x hx with h | ⟨h, h'⟩
        · rcases List.mem_append.mp h with h | h
          · exact Or.inl h
          · simp only [List.mem_singleton] at h; subst h; exact Or.inr ⟨List.mem_cons_self, hm⟩
        · exact Or.inr ⟨List.mem_cons_of_mem _ h, h'⟩
      · intro x hx hxm
        rcases List.mem_cons.mp hx with h | h
        · subst h
          -- `n` itself was just listed
          exact Or.inl (i1 x (List.mem_append_right _ (List.mem_singleton.mpr rfl)))
        · exact i3 x h hxm
    · rw [if_neg hc]
      obtain ⟨i1, i2, i3⟩ := ih cur
      refine ⟨i1, ?_, ?_⟩
      · intro x hx
        rcases i2 x hx with h | ⟨h, h'⟩
        · exact Or.inl h
        · exact Or.inr ⟨List.mem_cons_of_mem _ h, h'⟩
      · intro x hx hxm
        rcases List.mem_cons.mp hx with h | h
        · subst h
          have : isDup cur x = true := by
            simp only [Bool.and_eq_true, Bool.not_eq_true', not_and, Bool.not_eq_false] at hc
            exact hc hxm
          exact Or.inr (isDup_mono i1 this)
        · exact i3 x h hxm

theorem addOfType_append (ext : Bytes) : ∀ (ns ms cur : List Bytes),
    addOfType ext cur (ns ++ ms) = addOfType ext (addOfType ext cur ns) ms
  | [], _, _ => rfl
  | n :: ns, ms, cur => by
    simp only [List.cons_append, addOfType]
    split <;> exact addOfType_append ext ns ms _

theorem foldl_addOfType (ext : Bytes) : ∀ (as : List Arch) (cur : List Bytes),
    as.foldl (fun c a => addOfType ext c a.names) cur = addOfType ext cur (as.flatMap (·.names))
  | [], _ => rfl
  | a :: as, cur => by
    rw [List.foldl_cons, foldl_addOfType ext as, List.flatMap_cons, addOfType_append]

end Op2.Res
