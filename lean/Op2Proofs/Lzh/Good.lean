import Op2Proofs.Lzh.Step
import Op2Proofs.Huff.Arr
/-!
# The reference run: tree well-formedness along it, progress of the bit cursor, termination, monotone history
-/
namespace Op2.Lzh
open Op2 Op2.Huff Op2.Lzh.Spec

structure TreeOk (t : TA) : Prop where
  sized : t.Sized
  wf : TF.WF t.view
  hT : t.T = symbolCount

theorem treeOk_init : TreeOk (TA.init symbolCount) := by
  obtain ⟨w, s, t⟩ := TA.init_wf symbolCount (by decide)
  exact ⟨s, w, t⟩

theorem TreeOk.update {t t' : TA} {code : Nat} (k : TreeOk t) (h : t.updateChecked code = .ok t') : TreeOk t' := by
  obtain ⟨hc, _, rfl⟩ := TA.updateChecked_eq_ok.mp h
  obtain ⟨hv, hs, hT⟩ := TA.update_view t k.sized k.wf code hc
  exact ⟨hs, by rw [hv]; exact TF.update_wf k.wf hc, hT.trans k.hT⟩

theorem TreeOk.root_lt {t : TA} (k : TreeOk t) : t.root < t.n := TF.root_lt (t := t.view) k.wf.st.hT

theorem TreeOk.link_rng {t : TA} (k : TreeOk t) {node : Nat} (hn : node < t.n) :
    (t.link.getD node 0 < t.n - 1 ∧ t.link.getD node 0 % 2 = 0 ∧ t.link.getD node 0 + 1 < node) ∨
    (t.n ≤ t.link.getD node 0 ∧ t.link.getD node 0 < t.n + t.T) := k.wf.st.rng node hn

/-- the leaf of symbol `c` -/
theorem TreeOk.leaf {t : TA} (k : TreeOk t) {c : Nat} (hc : c < t.T) :
    let j := t.par.getD (c + t.n) 0
    j < t.n ∧ t.link.getD j 0 = c + t.n ∧ j ≠ t.root := by
  intro j
  obtain ⟨h1, h2⟩ := k.wf.st.chC (c + t.n) (Nat.le_add_left _ _) (show c + t.n < t.n + t.T by omega)
  have h2 : t.link.getD j 0 = c + t.n := h2
  have hri : t.link.getD t.root 0 < t.n := k.wf.st.rootInner
  exact ⟨h1, h2, fun e => by rw [e] at h2; omega⟩

/-- symbol count plus the number of updates so far -/
def rootCnt (t : TA) : Nat := t.cnt.getD t.root 0

theorem TreeOk.update_cnt {t t' : TA} {code : Nat} (k : TreeOk t) (h : t.updateChecked code = .ok t') :
    rootCnt t' = rootCnt t + 1 := by
  obtain ⟨hc, _, rfl⟩ := TA.updateChecked_eq_ok.mp h
  obtain ⟨hv, _, hT⟩ := TA.update_view t k.sized k.wf code hc
  have hroot : (t.update code).root = t.root := by unfold TA.root TA.n; rw [hT]
  show (t.update code).view.cnt (t.update code).root = t.view.cnt t.root + 1
  rw [hroot, hv]; exact TF.update_root_cnt k.wf hc

theorem readBit_mono (data : Array UInt8) (p : Nat) : p ≤ (readBit data p).2 := by
  unfold readBit; split <;> simp

theorem readBit_progress (data : Array UInt8) (p : Nat) (h : p < bitSize data) : (readBit data p).2 = p + 1 := by
  unfold readBit; rw [if_neg (by omega)]

theorem read8_mono (data : Array UInt8) (p : Nat) : p ≤ (read8 data p).2 := by
  unfold read8; split <;> simp

theorem readExtra_mono (data : Array UInt8) : ∀ k acc p, p ≤ (readExtra data k acc p).2 := by
  intro k
  induction k with
  | zero => intro acc p; exact Nat.le_refl _
  | succ k ih =>
    intro acc p
    simp only [readExtra]
    exact Nat.le_trans (readBit_mono data p) (ih _ _)

theorem repeatOffset_mono (data : Array UInt8) (p : Nat) : p ≤ (repeatOffset data p).2 := by
  unfold repeatOffset
  exact Nat.le_trans (read8_mono data p) (readExtra_mono data _ _ _)

theorem nextCode_succ (t : TA) (data : Array UInt8) (fuel node p : Nat) (h : node < t.n) :
    nextCode t data (fuel + 1) node p =
      if t.link.getD node 0 ≥ t.n then .ok (t.link.getD node 0 - t.n, p)
      else nextCode t data fuel (t.link.getD node 0 + (readBit data p).1) (readBit data p).2 := by
  have hn : ¬ node ≥ t.n := by omega
  simp only [nextCode, TA.isLeaf, TA.nodeData, TA.child, if_neg hn]
  by_cases hl : t.link.getD node 0 ≥ t.n
  · rw [if_pos hl, decide_eq_true hl]
  · rw [if_neg hl, decide_eq_false hl]

theorem nextCode_mono (t : TA) (data : Array UInt8) : ∀ fuel node p code p1,
    nextCode t data fuel node p = .ok (code, p1) → p ≤ p1 := by
  intro fuel
  induction fuel with
  | zero => intro node p code p1 h; simp [nextCode] at h
  | succ f ih =>
    intro node p code p1 h
    simp only [nextCode] at h
    split at h
    · simp at h
    · split at h
      · simp only [Except.ok.injEq, Prod.mk.injEq] at h; omega
      · simp at h
    · split at h
      · exact Nat.le_trans (readBit_mono data p) (ih _ _ _ _ h)
      · simp at h

/-- the root of a well-formed tree is an inner node, so every code consumes a bit while the stream lasts -/
theorem nextCode_progress {t : TA} (k : TreeOk t) (data : Array UInt8) (p code p1 : Nat)
    (h : nextCode t data t.n t.root p = .ok (code, p1)) (hp : p < bitSize data) : p < p1 := by
  have hr := k.root_lt
  have hl : ¬ t.link.getD t.root 0 ≥ t.n := Nat.not_le.mpr k.wf.st.rootInner
  rw [show t.n = t.n - 1 + 1 by omega, nextCode_succ t data _ _ _ hr, if_neg hl] at h
  have := nextCode_mono t data _ _ _ _ _ h
  rw [readBit_progress data p hp] at this
  omega

theorem readBit_le (data : Array UInt8) (p : Nat) : (readBit data p).1 ≤ 1 := by
  unfold readBit; split
  · exact Nat.zero_le _
  · exact bitAt_le data p

theorem nextCode_ok {t : TA} (k : TreeOk t) (data : Array UInt8) : ∀ fuel node p, node < t.n → node < fuel →
    ∃ code p1, nextCode t data fuel node p = .ok (code, p1) ∧ code < t.T := by
  intro fuel
  induction fuel with
  | zero => intro node p _ h; omega
  | succ f ih =>
    intro node p hn hf
    have rng := k.link_rng hn
    have hb := readBit_le data p
    rw [nextCode_succ t data f node p hn]
    split
    · exact ⟨_, _, rfl, by omega⟩
    · exact ih _ _ (by omega) (by omega)

theorem decodeSym_ok {t : TA} (k : TreeOk t) (data : Array UInt8) (p : Nat) :
    (TF.maxCount ≤ t.cnt.getD t.root 0 ∧ ∃ p1, decodeSym data t p = .full p1) ∨
    (t.cnt.getD t.root 0 < TF.maxCount ∧ ∃ tok q, decodeSym data t p = tokSym (t.update tok.code) q tok ∧ tok.code < t.T ∧
      p ≤ q ∧ (p < bitSize data → p < q)) := by
  have hn := k.root_lt
  obtain ⟨code, p1, hw, hc⟩ := nextCode_ok k data t.n t.root p hn hn
  rcases decodeSym_cases data t p with ⟨_, e, he⟩ | ⟨code', p1', hf, hw', e, he⟩ | ⟨t', q, tok, p1', hs, hw', hu, hm⟩
  · rw [hw] at he; cases he
  · rw [hw] at hw'; cases hw'
    exact Or.inl ⟨Nat.le_of_not_lt fun hlt => (by rw [TA.updateChecked_eq_ok.mpr ⟨hc, hlt, rfl⟩] at he; cases he), p1, hf⟩
  · rw [hw] at hw'
    simp only [Except.ok.injEq, Prod.mk.injEq] at hw'
    obtain ⟨rfl, rfl⟩ := hw'
    obtain ⟨_, hlt, rfl⟩ := TA.updateChecked_eq_ok.mp hu
    have m := nextCode_mono t data _ _ _ _ _ hw
    have pr := nextCode_progress k data p _ _ hw
    refine Or.inr ⟨hlt, tok, q, hs, hc, ?_⟩
    cases tok with
    | lit c => obtain ⟨_, rfl⟩ := hm; exact ⟨m, pr⟩
    | mat len dist =>
      obtain ⟨_, _, rfl⟩ := hm
      have := repeatOffset_mono data p1
      exact ⟨by omega, fun h => by have := pr h; omega⟩

theorem decodeSym_not_badQuery {t : TA} (k : TreeOk t) (data : Array UInt8) (p : Nat) : decodeSym data t p ≠ .badQuery := by
  rcases decodeSym_ok k data p with ⟨_, p1, h⟩ | ⟨_, tok, q, h, _⟩
  · rw [h]; exact Sym.noConfusion
  · rw [h]; cases tok <;> exact Sym.noConfusion

theorem step_cap_iff_full {t : TA} (k : TreeOk t) (data : Array UInt8) (p : Nat) (hist : List UInt8) :
    Spec.step data t p hist = .cap ↔ t.cnt.getD t.root 0 ≥ TF.maxCount := by
  rcases decodeSym_ok k data p with ⟨hfull, p1, h⟩ | ⟨hlt, tok, q, h, _⟩
  · simp only [Spec.step, h]; exact ⟨fun _ => hfull, fun _ => trivial⟩
  · rw [step_tok h]
    constructor
    · intro h2; split at h2 <;> cases h2
    · intro h2; omega

theorem step_next {data : Array UInt8} {t t' : TA} {p p' : Nat} {hist hist' : List UInt8} (k : TreeOk t)
    (h : Spec.step data t p hist = .next t' p' hist') : TreeOk t' ∧ p < p' ∧ p' < bitSize data := by
  rcases decodeSym_ok k data p with ⟨_, p1, hs⟩ | ⟨hlt, tok, q, hs, hc, _, hp⟩
  · simp only [Spec.step, hs] at h; cases h
  · rw [step_tok hs] at h
    split at h
    · cases h
    · rename_i he
      cases h
      have hq : p' < bitSize data := by simpa [endOfStream] using he
      exact ⟨k.update (TA.updateChecked_eq_ok.mpr ⟨hc, hlt, rfl⟩), hp (by omega), hq⟩

theorem step_suffix {data : Array UInt8} {t : TA} {p : Nat} {hist : List UInt8} :
    (∀ hist', Spec.step data t p hist = .last hist' → hist <:+ hist') ∧
    (∀ t' p' hist', Spec.step data t p hist = .next t' p' hist' → hist <:+ hist') := by
  rcases decodeSym_cases data t p with ⟨h, _⟩ | ⟨_, p1, h, _⟩ | ⟨t', q, tok, p1, h, _⟩
  · simp only [Spec.step, h]; exact ⟨fun _ h => (by cases h), fun _ _ _ h => (by cases h)⟩
  · simp only [Spec.step, h]; exact ⟨fun _ h => (by cases h), fun _ _ _ h => (by cases h)⟩
  · rw [step_tok h]
    have := tokExpand_suffix hist tok
    split
    · exact ⟨fun _ e => (by cases e; exact this), fun _ _ _ e => (by cases e)⟩
    · exact ⟨fun _ e => (by cases e), fun _ _ _ e => (by cases e; exact this)⟩

/-- every code but the last consumes a bit, so `bitSize − p + 1` rounds suffice -/
theorem run_terminates (data : Array UInt8) : ∀ fuel (t : TA) (p : Nat) (hist : List UInt8), TreeOk t →
    bitSize data - p + 1 ≤ fuel → (Spec.run data fuel t p hist).2 ≠ .fuel := by
  intro fuel
  induction fuel with
  | zero => intro t p hist _ h; omega
  | succ f ih =>
    intro t p hist k h
    simp only [Spec.run]
    cases hs : Spec.step data t p hist with
    | cap => simp
    | last hist' => simp
    | next t' p' hist' =>
      obtain ⟨k', h1, h2⟩ := step_next k hs
      exact ih t' p' hist' k' (by omega)

theorem run_suffix (data : Array UInt8) : ∀ fuel (t : TA) (p : Nat) (hist : List UInt8),
    hist <:+ (Spec.run data fuel t p hist).1 := by
  intro fuel
  induction fuel with
  | zero => intro t p hist; exact List.suffix_refl _
  | succ f ih =>
    intro t p hist
    simp only [Spec.run]
    cases hs : Spec.step data t p hist with
    | cap => exact List.suffix_refl _
    | last hist' => exact step_suffix.1 _ hs
    | next t' p' hist' => exact List.IsSuffix.trans (step_suffix.2 _ _ _ hs) (ih t' p' hist')

/-- "continuing the reference decoder from this state gives `res`" -/
def Good (data : Array UInt8) (t : TA) (p : Nat) (hist : List UInt8) (res : List UInt8 × Status) : Prop :=
  ∃ F, Spec.run data F t p hist = res ∧ res.2 ≠ .fuel

theorem good_init (data : Array UInt8) :
    Good data (TA.init symbolCount) 0 [] (Spec.run data (bitSize data + 2) (TA.init symbolCount) 0 []) :=
  ⟨_, rfl, run_terminates data _ _ _ _ treeOk_init (by omega)⟩

/-- Everything downstream takes the run's result as a variable `res`: put in as a term, it makes the kernel evaluate
    the run on the 627-node initial tree whenever `(Spec.decode data).2` meets `(Spec.run …).2`. -/
theorem decode_good (data : Array UInt8) :
    ∃ res, Good data (TA.init symbolCount) 0 [] res ∧ Spec.decode data = (res.1.reverse, res.2) :=
  ⟨_, good_init data, rfl⟩

theorem Good.step {data : Array UInt8} {t : TA} {p : Nat} {hist : List UInt8} {res : List UInt8 × Status}
    (g : Good data t p hist res) :
    match Spec.step data t p hist with
    | .cap => res = (hist, .capacity)
    | .last hist' => res = (hist', .done)
    | .next t' p' hist' => Good data t' p' hist' res := by
  obtain ⟨F, hF, hne⟩ := g
  cases F with
  | zero => rw [← hF] at hne; exact absurd rfl hne
  | succ F =>
    rw [Spec.run] at hF
    cases hs : Spec.step data t p hist with
    | cap => rw [hs] at hF; exact hF.symm
    | last hist' => rw [hs] at hF; exact hF.symm
    | next t' p' hist' => rw [hs] at hF; exact ⟨F, hF, hne⟩

theorem Good.suffix {data : Array UInt8} {t : TA} {p : Nat} {hist : List UInt8} {res : List UInt8 × Status}
    (g : Good data t p hist res) : hist <:+ res.1 := by
  obtain ⟨F, hF, _⟩ := g
  rw [← hF]; exact run_suffix data F t p hist

end Op2.Lzh
