import Op2Model.Lzh
/-!
`BitStreamReader` as written (`CBits`: cursor + one-byte shift register `m_ReadBuff`) returns the values and cursors of
the pure stream `readBit / read8`.  The arithmetic runs on `bitsVal data p k`, the `k` bits from `p` as one number: a
field inside a byte is `byte / 2^· % 2^k` (`bitsVal_byte`) and splits at any point (`bitsVal_add`) — no cases on `p % 8`.
-/
namespace Op2.Lzh
open Op2

def byteAt (data : Array UInt8) (i : Nat) : Nat := (data.getD i 0).toNat

theorem byteAt_lt (data : Array UInt8) (i : Nat) : byteAt data i < 256 := by
  unfold byteAt; exact UInt8.toNat_lt _

theorem byteAt_past (data : Array UInt8) (i : Nat) (h : data.size ≤ i) : byteAt data i = 0 := by
  unfold byteAt; simp [Array.getD_eq_getD_getElem?, h]

theorem bitAt_eq (data : Array UInt8) (p : Nat) : bitAt data p = (byteAt data (p / 8) / 2 ^ (7 - p % 8)) % 2 := by
  unfold bitAt byteAt; rw [Nat.shiftRight_eq_div_pow]

theorem bitAt_le (data : Array UInt8) (p : Nat) : bitAt data p ≤ 1 := by
  unfold bitAt; omega

def bitsVal (data : Array UInt8) (p : Nat) : Nat → Nat
  | 0 => 0
  | k + 1 => bitsVal data p k * 2 + bitAt data (p + k)

theorem bits8_eq (data : Array UInt8) (p : Nat) : bits8 data p = bitsVal data p 8 := by
  simp only [bits8, bitsVal, Nat.add_zero]; omega

theorem bitsVal_lt (data : Array UInt8) (p : Nat) : ∀ k, bitsVal data p k < 2 ^ k := by
  intro k
  induction k with
  | zero => exact Nat.lt_succ_self 0
  | succ k ih => have := bitAt_le data (p + k); rw [bitsVal, Nat.pow_succ]; omega

theorem bitsVal_add (data : Array UInt8) (p a : Nat) : ∀ b,
    bitsVal data p (a + b) = bitsVal data p a * 2 ^ b + bitsVal data (p + a) b := by
  intro b
  induction b with
  | zero => simp [bitsVal]
  | succ b ih =>
    rw [← Nat.add_assoc, bitsVal, bitsVal, ih, Nat.pow_succ, Nat.add_assoc p a b, Nat.add_mul, Nat.mul_assoc]; omega

theorem mod_two_pow_succ (x k : Nat) : x % 2 ^ (k + 1) = x / 2 % 2 ^ k * 2 + x % 2 := by
  rw [Nat.pow_succ, Nat.mul_comm, Nat.mod_mul]; omega

theorem bitsVal_digits (data : Array UInt8) (p v w : Nat) (h : ∀ i, i < w → bitAt data (p + i) = v / 2 ^ (w - 1 - i) % 2) :
    ∀ m, m ≤ w → bitsVal data p m = v / 2 ^ (w - m) % 2 ^ m := by
  intro m
  induction m with
  | zero => intro _; simp [bitsVal, Nat.mod_one]
  | succ m ih =>
    intro hm
    rw [bitsVal, ih (by omega), h m (by omega), show w - m = w - (m + 1) + 1 by omega, show w - 1 - m = w - (m + 1) by omega,
      mod_two_pow_succ, Nat.pow_succ, Nat.div_div_eq_div_mul]

theorem bitsVal_byte (data : Array UInt8) (p k : Nat) (hk : p % 8 + k ≤ 8) :
    bitsVal data p k = byteAt data (p / 8) / 2 ^ (8 - p % 8 - k) % 2 ^ k :=
  bitsVal_digits data p _ (8 - p % 8) (fun i hi => by
    rw [bitAt_eq, show (p + i) / 8 = p / 8 by omega, show 7 - (p + i) % 8 = 8 - p % 8 - 1 - i by omega]) k (by omega)

theorem bits8_lt (data : Array UInt8) (p : Nat) : bits8 data p < 256 := by
  rw [bits8_eq]; exact bitsVal_lt data p 8

theorem read8_lt (data : Array UInt8) (p : Nat) : (read8 data p).1 < 256 := by
  unfold read8; split
  · show (0 : Nat) < 256; omega
  · exact bits8_lt data p

theorem shl_mod_256 (B k : Nat) (hk : k ≤ 8) : B * 2 ^ k % 256 = B % 2 ^ (8 - k) * 2 ^ k := by
  rw [← Nat.mul_mod_mul_right, Nat.pow_sub_mul_pow 2 hk]

theorem shr_lt (N k : Nat) (hN : N < 256) (hk : k ≤ 8) : N / 2 ^ (8 - k) < 2 ^ k :=
  Nat.div_lt_of_lt_mul (by rw [Nat.pow_sub_mul_pow 2 hk]; exact hN)

theorem bits8_aligned (data : Array UInt8) (p : Nat) (hp : p % 8 = 0) : bits8 data p = byteAt data (p / 8) := by
  rw [bits8_eq, bitsVal_byte data p 8 (by omega), hp, Nat.sub_self, Nat.pow_zero, Nat.div_one]
  exact Nat.mod_eq_of_lt (byteAt_lt data (p / 8))

theorem bits8_two_bytes (data : Array UInt8) (p : Nat) :
    bits8 data p = (byteAt data (p / 8) * 2 ^ (p % 8)) % 256 + byteAt data (p / 8 + 1) / 2 ^ (8 - p % 8) := by
  have hj : p % 8 ≤ 8 := by omega
  have e1 : (p + (8 - p % 8)) / 8 = p / 8 + 1 := by omega
  have e2 : (p + (8 - p % 8)) % 8 = 0 := by omega
  have h := bitsVal_add data p (8 - p % 8) (p % 8)
  rw [Nat.sub_add_cancel hj, bitsVal_byte data p (8 - p % 8) (by omega), bitsVal_byte data (p + (8 - p % 8)) (p % 8) (by omega),
    e1, e2, Nat.sub_self, Nat.pow_zero, Nat.div_one, ← shl_mod_256 _ _ hj, Nat.sub_zero,
    Nat.mod_eq_of_lt (shr_lt _ _ (byteAt_lt data _) hj)] at h
  rw [bits8_eq, h]

/-- inside a byte that is not yet exhausted the register holds the byte shifted left by the bits already read -/
def CInv (data : Array UInt8) (c : CBits) : Prop :=
  c.pos % 8 ≠ 0 → c.pos < bitSize data → c.buf = (byteAt data (c.pos / 8) * 2 ^ (c.pos % 8)) % 256

theorem cinv_init (data : Array UInt8) : CInv data { pos := 0, buf := 0 } := by
  intro h; simp at h

theorem reg_bit (B k : Nat) (hk : k < 8) :
    (if (B * 2 ^ k) % 256 / 128 % 2 = 1 then 1 else 0) = (B / 2 ^ (7 - k)) % 2 := by
  have e : B * 2 ^ k % 256 / 128 = B / 2 ^ (7 - k) % 2 := by
    rw [Nat.mod_mul_right_div_self _ 128 2, show 128 = 2 ^ (7 - k) * 2 ^ k by rw [Nat.pow_sub_mul_pow 2 (by omega)],
      Nat.mul_div_mul_right _ _ (Nat.two_pow_pos k)]
  rw [e]; split <;> omega

theorem reg_shift (B k : Nat) : ((B * 2 ^ k) % 256 * 2) % 256 = (B * 2 ^ (k + 1)) % 256 := by
  rw [Nat.mod_mul_mod, Nat.mul_assoc, ← Nat.pow_succ]

theorem reg_or (B N k : Nat) (hN : N < 256) (hk : k ≤ 8) :
    ((B * 2 ^ k) % 256) ||| (N >>> (8 - k)) = (B * 2 ^ k) % 256 + N / 2 ^ (8 - k) := by
  rw [Nat.shiftRight_eq_div_pow, shl_mod_256 B k hk, ← Nat.shiftLeft_eq, ← Nat.shiftLeft_add_eq_or_of_lt (shr_lt N k hN hk)]

theorem readBit_refines (data : Array UInt8) (c : CBits) (h : CInv data c) :
    (CBits.readBit data c).1 = (readBit data c.pos).1 ∧ (CBits.readBit data c).2.pos = (readBit data c.pos).2 ∧
    CInv data (CBits.readBit data c).2 := by
  unfold CBits.readBit readBit
  by_cases he : c.pos ≥ bitSize data
  · rw [if_pos he, if_pos he]; exact ⟨rfl, rfl, h⟩
  · rw [if_neg he, if_neg he]
    have hlt : c.pos < bitSize data := by omega
    have hB := byteAt_lt data (c.pos / 8)
    have hk : c.pos % 8 < 8 := Nat.mod_lt _ (by omega)
    have hreg : (if c.pos % 8 = 0 then (data.getD (c.pos / 8) 0).toNat else c.buf) = (byteAt data (c.pos / 8) * 2 ^ (c.pos % 8)) % 256 := by
      by_cases hz : c.pos % 8 = 0
      · rw [if_pos hz, hz]; show byteAt data (c.pos / 8) = _; omega
      · rw [if_neg hz]; exact h hz hlt
    rw [hreg]
    refine ⟨?_, ?_, ?_⟩
    · rw [bitAt_eq]; exact reg_bit _ _ hk
    · rfl
    · intro hnz hlt'
      show ((byteAt data (c.pos / 8) * 2 ^ (c.pos % 8)) % 256 * 2) % 256 = (byteAt data ((c.pos + 1) / 8) * 2 ^ ((c.pos + 1) % 8)) % 256
      have hnz' : (c.pos + 1) % 8 ≠ 0 := hnz
      have e1 : (c.pos + 1) / 8 = c.pos / 8 := by omega
      have e2 : (c.pos + 1) % 8 = c.pos % 8 + 1 := by omega
      rw [e1, e2]; exact reg_shift _ _

theorem read8_refines (data : Array UInt8) (c : CBits) (h : CInv data c) :
    (CBits.read8 data c).1 = (read8 data c.pos).1 ∧ (CBits.read8 data c).2.pos = (read8 data c.pos).2 ∧
    CInv data (CBits.read8 data c).2 := by
  unfold CBits.read8 read8
  by_cases he : c.pos ≥ bitSize data
  · rw [if_pos he, if_pos he]; exact ⟨rfl, rfl, h⟩
  · rw [if_neg he, if_neg he]
    have hlt : c.pos < bitSize data := by omega
    by_cases hz : c.pos % 8 = 0
    · simp only [hz, if_true]
      refine ⟨?_, ?_, ?_⟩
      · show byteAt data (c.pos / 8) = bits8 data c.pos
        exact (bits8_aligned data c.pos hz).symm
      · trivial
      · intro hnz; exact absurd (show (c.pos + 8) % 8 = 0 by omega) hnz
    · simp only [hz, if_false]
      have hreg := h hz hlt
      have hnb : (if c.pos + 8 ≥ bitSize data then 0 else (data.getD ((c.pos + 8) / 8) 0).toNat) = byteAt data (c.pos / 8 + 1) := by
        have e1 : (c.pos + 8) / 8 = c.pos / 8 + 1 := by omega
        by_cases hend : c.pos + 8 ≥ bitSize data
        · rw [if_pos hend, byteAt_past data _ (by unfold bitSize at hend; omega)]
        · rw [if_neg hend, e1]; rfl
      rw [hnb]
      have hN := byteAt_lt data (c.pos / 8 + 1)
      refine ⟨?_, ?_, ?_⟩
      · show c.buf ||| (byteAt data (c.pos / 8 + 1) >>> (8 - c.pos % 8)) = bits8 data c.pos
        rw [hreg, reg_or _ _ _ hN (by omega), bits8_two_bytes data c.pos]
      · trivial
      · intro hnz hlt'
        show (byteAt data (c.pos / 8 + 1) <<< (c.pos % 8)) % 256 = (byteAt data ((c.pos + 8) / 8) * 2 ^ ((c.pos + 8) % 8)) % 256
        have e1 : (c.pos + 8) / 8 = c.pos / 8 + 1 := by omega
        have e2 : (c.pos + 8) % 8 = c.pos % 8 := by omega
        rw [e1, e2, Nat.shiftLeft_eq]

theorem CBits.readBit_buf_lt (data : Array UInt8) (c : CBits) (h : c.buf < 256) : (CBits.readBit data c).2.buf < 256 := by
  unfold CBits.readBit
  split
  · exact h
  · exact Nat.mod_lt _ (by omega)

/-! A schedule of `ReadNextBit` / `ReadNext8Bits` calls, run on the class as written (`runC`) and on the pure stream
(`runA`); each gives the values and cursors returned. -/

inductive BitOp where | bit | byte
  deriving DecidableEq, Repr

def runC (data : Array UInt8) : CBits → List BitOp → List (Nat × Nat)
  | _, [] => []
  | c, .bit :: ops => let r := CBits.readBit data c; (r.1, r.2.pos) :: runC data r.2 ops
  | c, .byte :: ops => let r := CBits.read8 data c; (r.1, r.2.pos) :: runC data r.2 ops

def runA (data : Array UInt8) : Nat → List BitOp → List (Nat × Nat)
  | _, [] => []
  | p, .bit :: ops => let r := readBit data p; (r.1, r.2) :: runA data r.2 ops
  | p, .byte :: ops => let r := read8 data p; (r.1, r.2) :: runA data r.2 ops

theorem run_refines (data : Array UInt8) : ∀ (ops : List BitOp) (c : CBits), CInv data c → runC data c ops = runA data c.pos ops := by
  intro ops
  induction ops with
  | nil => intro c _; rfl
  | cons op ops ih =>
    intro c h
    cases op with
    | bit =>
      obtain ⟨h1, h2, h3⟩ := readBit_refines data c h
      simp only [runC, runA]
      rw [h1, h2, ih _ h3, h2]
    | byte =>
      obtain ⟨h1, h2, h3⟩ := read8_refines data c h
      simp only [runC, runA]
      rw [h1, h2, ih _ h3, h2]

end Op2.Lzh
