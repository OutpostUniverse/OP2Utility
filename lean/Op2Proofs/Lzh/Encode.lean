import Op2Proofs.Lzh.EncWalk
import Op2Proofs.Lzh.EncOffset
import Op2Proofs.Huff.Update
/-!
The encoder round trip.  `Spec.encode` turns a token list (literal | match) into bytes with its own copy of the adaptive
tree.  Token by token the reference decoder recovers the symbol (`nextCode_encode`), the offset
(`repeatOffset_offsetBits`) and updates its tree the same way, so its output begins with the payload; after the last
token at most seven padding bits remain and every further code consumes at least one of them.
-/
namespace Op2.Lzh
open Op2 Op2.Huff Op2.Lzh.Spec

namespace Spec
/-- a token the format can express -/
def Token.WF : Token → Prop
  | .lit b => b < 256
  | .mat len dist => 3 ≤ len ∧ len ≤ 60 ∧ 1 ≤ dist ∧ dist ≤ 4096

def tokenBits (t : TA) : Token → List Nat
  | .lit b => codeBits t b
  | .mat len dist => codeBits t (len + matchBase) ++ offsetBits (dist - 1)

end Spec

theorem Token.code_lt {t : TA} (k : TreeOk t) {tok : Token} (h : tok.WF) : tok.code < t.T := by
  rw [k.hT]
  cases tok with
  | lit b => have : b < 256 := h; show b < 314; omega
  | mat len dist => obtain ⟨_, h2, _, _⟩ := h; show len + 253 < 314; omega

theorem expand_cons (hist : List UInt8) (tok : Token) (rest : List Token) :
    expand hist (tok :: rest) = expand (tokExpand hist tok) rest := by
  cases tok <;> rfl

theorem rootCnt_init : rootCnt (TA.init symbolCount) = symbolCount := by
  have := TA.init_root_cnt symbolCount (by decide)
  rw [TA.view_cnt, TA.view_root] at this
  exact this

theorem encodeBits_cons_eq (t : TA) (tok : Token) (rest : List Token) :
    encodeBits t (tok :: rest) =
      match t.updateChecked tok.code with
      | .ok t' => tokenBits t tok ++ encodeBits t' rest
      | .error _ => [] := by
  cases tok with
  | lit b => rfl
  | mat len dist =>
    simp only [encodeBits, Token.code, tokenBits]
    cases t.updateChecked (len + matchBase) <;> simp only [List.append_assoc]

theorem encodeBits_cons {t t' : TA} (tok : Token) (rest : List Token) (h : t.updateChecked tok.code = .ok t') :
    encodeBits t (tok :: rest) = tokenBits t tok ++ encodeBits t' rest := by
  rw [encodeBits_cons_eq, h]

theorem tokenBits_bits (t : TA) (tok : Token) : ∀ b ∈ tokenBits t tok, b < 2 := by
  intro b hb
  cases tok with
  | lit c => exact codeBits_bits _ _ b hb
  | mat len dist =>
    rcases List.mem_append.mp hb with h | h
    · exact codeBits_bits _ _ b h
    · exact offsetBits_bits _ b h

theorem tokenBits_pos {t : TA} (k : TreeOk t) {tok : Token} (h : tok.WF) : 0 < (tokenBits t tok).length := by
  have hc := Token.code_lt k h
  cases tok with
  | lit b => exact codeBits_pos k hc
  | mat len dist =>
    have := codeBits_pos k (c := len + matchBase) hc
    simp only [tokenBits, List.length_append]; omega

theorem encodeBits_bits : ∀ (ts : List Token) (t : TA), ∀ b ∈ encodeBits t ts, b < 2 := by
  intro ts
  induction ts with
  | nil => intro t b hb; simp [encodeBits] at hb
  | cons tok rest ih =>
    intro t b hb
    rw [encodeBits_cons_eq] at hb
    split at hb
    · rcases List.mem_append.mp hb with h | h
      · exact tokenBits_bits _ _ b h
      · exact ih _ b h
    · simp at hb

theorem decodeSym_token {t t' : TA} (k : TreeOk t) (data : Array UInt8) (p : Nat) {tok : Token} (hw : tok.WF)
    (hu : t.updateChecked tok.code = .ok t') (hs : Starts data p (tokenBits t tok)) :
    decodeSym data t p = tokSym t' (p + (tokenBits t tok).length) tok := by
  have hc := Token.code_lt k hw
  cases tok with
  | lit b =>
    have hb : b < 256 := hw
    have hu' : t.updateChecked b = .ok t' := hu
    have hn := nextCode_encode k data (c := b) hc p hs
    unfold decodeSym
    simp only [hn, hu', if_pos hb, tokSym, tokenBits]
  | mat len dist =>
    obtain ⟨h1, h2, h3, h4⟩ := hw
    have hu' : t.updateChecked (len + matchBase) = .ok t' := hu
    obtain ⟨hs1, hs2⟩ := (show Starts data p (codeBits t (len + matchBase) ++ offsetBits (dist - 1)) from hs).append
    have hn := nextCode_encode k data (c := len + matchBase) hc p hs1
    have ho := repeatOffset_offsetBits data _ (dist - 1) (by omega) hs2
    have hnl : ¬ (len + matchBase < 256) := by unfold matchBase; omega
    unfold decodeSym
    simp only [hn, hu', if_neg hnl, ho, tokSym, tokenBits, List.length_append, Nat.add_sub_cancel, Nat.add_assoc]

theorem run_sym {data : Array UInt8} {t t' : TA} {p q : Nat} {tok : Token} (h : decodeSym data t p = tokSym t' q tok)
    (F : Nat) (hist : List UInt8) (k0 : Nat) :
    Spec.run data (F + 1) t p hist =
      (if endOfStream data q then (tokExpand hist tok, .done) else Spec.run data F t' q (tokExpand hist tok)) ∧
    Spec.runCodes data (F + 1) t p k0 = (if endOfStream data q then k0 + 1 else Spec.runCodes data F t' q (k0 + 1)) := by
  refine ⟨?_, ?_⟩
  · by_cases he : endOfStream data q = true
    · simp only [Spec.run, step_tok h, if_pos he]
    · simp only [Spec.run, step_tok h, if_neg he]
  · cases tok <;> (simp only [tokSym] at h; simp only [Spec.runCodes, h])

/-- at most one code per remaining bit (one code if none remains) -/
theorem run_tail (data : Array UInt8) : ∀ (F : Nat) (t : TA) (p : Nat) (hist : List UInt8) (k0 : Nat), TreeOk t →
    rootCnt t + max 1 (bitSize data - p) ≤ TF.maxCount → bitSize data - p + 1 ≤ F →
    ∃ out, Spec.run data F t p hist = (out, .done) ∧ hist <:+ out ∧
      Spec.runCodes data F t p k0 ≤ k0 + max 1 (bitSize data - p) := by
  intro F
  induction F with
  | zero => intro t p hist k0 _ _ h; omega
  | succ F ih =>
    intro t p hist k0 k hcnt hF
    have hr : rootCnt t < TF.maxCount := by omega
    rcases decodeSym_ok k data p with ⟨hfull, _⟩ | ⟨_, tok, q, hd, hc, _, hp⟩
    · exact absurd hr (Nat.not_lt.mpr hfull)
    · have hu := TA.updateChecked_eq_ok.mpr ⟨hc, hr, rfl⟩
      have hcnt' := k.update_cnt hu
      obtain ⟨r1, r2⟩ := run_sym hd F hist k0
      rw [r1, r2]
      by_cases he : endOfStream data q = true
      · simp only [if_pos he]
        exact ⟨_, rfl, tokExpand_suffix _ _, by omega⟩
      · simp only [if_neg he]
        have hlt : q < bitSize data := by simpa [endOfStream] using he
        have hpq : p < q := hp (by omega)
        obtain ⟨out, o1, o2, o3⟩ := ih (t.update tok.code) q (tokExpand hist tok) (k0 + 1) (k.update hu) (by omega) (by omega)
        exact ⟨out, o1, List.IsSuffix.trans (tokExpand_suffix _ _) o2, by omega⟩

theorem encodeBits_pos {t : TA} (k : TreeOk t) {ts : List Token} (hne : ts ≠ []) (hw : ∀ tok ∈ ts, tok.WF)
    (hr : rootCnt t < TF.maxCount) : 0 < (encodeBits t ts).length := by
  cases ts with
  | nil => exact absurd rfl hne
  | cons tok rest =>
    have hwf := hw tok (by simp)
    have hc := Token.code_lt k hwf
    rw [encodeBits_cons tok rest (TA.updateChecked_eq_ok.mpr ⟨hc, hr, rfl⟩), List.length_append]
    have := tokenBits_pos k hwf
    omega

theorem run_tokens (data : Array UInt8) : ∀ (ts : List Token) (t : TA) (p : Nat) (hist : List UInt8) (k0 F : Nat),
    TreeOk t → (∀ tok ∈ ts, tok.WF) → Starts data p (encodeBits t ts) →
    rootCnt t + ts.length + (bitSize data - (p + (encodeBits t ts).length)) ≤ TF.maxCount →
    (ts = [] → p < bitSize data) → bitSize data - p + 1 ≤ F →
    ∃ out, Spec.run data F t p hist = (out, .done) ∧ expand hist ts <:+ out ∧
      Spec.runCodes data F t p k0 ≤ k0 + ts.length + (bitSize data - (p + (encodeBits t ts).length)) := by
  intro ts
  induction ts with
  | nil =>
    intro t p hist k0 F k _ _ hcnt hp hF
    have hlt := hp rfl
    simp only [encodeBits, List.length_nil, Nat.add_zero] at hcnt ⊢
    obtain ⟨out, o1, o2, o3⟩ := run_tail data F t p hist k0 k (by omega) hF
    exact ⟨out, o1, o2, by omega⟩
  | cons tok rest ih =>
    intro t p hist k0 F k hw hs hcnt _ hF
    have hwf := hw tok (by simp)
    have hc := Token.code_lt k hwf
    simp only [List.length_cons] at hcnt ⊢
    have hr : rootCnt t < TF.maxCount := by omega
    have hu := TA.updateChecked_eq_ok.mpr ⟨hc, hr, rfl⟩
    have k' := k.update hu
    have hcnt' := k.update_cnt hu
    rw [encodeBits_cons tok rest hu] at hs hcnt ⊢
    rw [List.length_append] at hcnt ⊢
    obtain ⟨hs1, hs2⟩ := hs.append
    have hpos := tokenBits_pos k hwf
    have hd := decodeSym_token k data p hwf hu hs1
    obtain ⟨F', rfl⟩ : ∃ F', F = F' + 1 := ⟨F - 1, by omega⟩
    obtain ⟨r1, r2⟩ := run_sym hd F' hist k0
    rw [r1, r2, expand_cons]
    by_cases he : endOfStream data (p + (tokenBits t tok).length) = true
    · simp only [if_pos he]
      have hge : p + (tokenBits t tok).length ≥ bitSize data := by simpa [endOfStream] using he
      have hrest : rest = [] := by
        apply Classical.byContradiction
        intro hne
        have hl : 0 < rest.length := List.length_pos_iff.mpr hne
        have := encodeBits_pos k' hne (fun x hx => hw x (List.mem_cons_of_mem _ hx)) (by omega)
        have := hs2.1
        omega
      subst hrest
      exact ⟨_, rfl, List.suffix_refl _, by omega⟩
    · simp only [if_neg he]
      have hlt : p + (tokenBits t tok).length < bitSize data := by simpa [endOfStream] using he
      obtain ⟨out, o1, o2, o3⟩ := ih (t.update tok.code) (p + (tokenBits t tok).length) (tokExpand hist tok) (k0 + 1) F' k'
        (fun x hx => hw x (List.mem_cons_of_mem _ hx)) hs2 (by omega) (fun _ => hlt) (by omega)
      exact ⟨out, o1, o2, by omega⟩

/-- the payload's codes plus up to seven decoded from the padding bits fit into the 65221 updates the tree accepts -/
def tokenLimit : Nat := TF.maxCount - symbolCount - 7

def paddingBits (ts : List Token) : Nat :=
  bitSize (Spec.encode ts).toArray - (encodeBits (TA.init symbolCount) ts).length

theorem paddingBits_lt (ts : List Token) : paddingBits ts < 8 := by
  unfold paddingBits Spec.encode
  rw [bitSize_packBits]; omega

/-- beyond the payload's codes the decoder reads at most one code per padding bit (exactly one code in all for the
    empty payload) -/
theorem decode_encode_prefix (ts : List Token) (hw : ∀ tok ∈ ts, tok.WF) (hlen : ts.length ≤ tokenLimit) :
    ∃ out, Spec.decode (Spec.encode ts).toArray = (out, .done) ∧ (Spec.expand [] ts).reverse <+: out ∧
      Spec.codeCount (Spec.encode ts).toArray ≤ max 1 (ts.length + paddingBits ts) := by
  have hlen' : ts.length + 7 ≤ 65221 := by unfold tokenLimit TF.maxCount symbolCount at hlen; omega
  have hbits := encodeBits_bits ts (TA.init symbolCount)
  have hpad := paddingBits_lt ts
  unfold paddingBits at hpad ⊢
  have hsize : bitSize (Spec.encode ts).toArray = 8 * (((encodeBits (TA.init symbolCount) ts).length + 7) / 8) :=
    bitSize_packBits _
  have hstart : Starts (Spec.encode ts).toArray 0 (encodeBits (TA.init symbolCount) ts) := starts_packBits _ hbits
  have hroot := rootCnt_init
  have hmax : TF.maxCount = 65535 := rfl
  have hsym : symbolCount = 314 := rfl
  unfold Spec.decode Spec.codeCount
  generalize (Spec.encode ts).toArray = data at *
  by_cases hne : ts = []
  · subst hne
    have hz : bitSize data = 0 := by rw [hsize]; simp [encodeBits]
    obtain ⟨out, o1, o2, o3⟩ := run_tail data (bitSize data + 2) (TA.init symbolCount) 0 [] 0 treeOk_init (by omega) (by omega)
    refine ⟨out.reverse, by rw [o1], ?_, ?_⟩
    · simp [expand]
    · simp only [List.length_nil]; omega
  · obtain ⟨out, o1, o2, o3⟩ := run_tokens data ts (TA.init symbolCount) 0 [] 0 (bitSize data + 2) treeOk_init hw hstart
      (by omega) (fun h => absurd h hne) (by omega)
    refine ⟨out.reverse, by rw [o1], List.reverse_prefix.mpr o2, ?_⟩
    omega

end Op2.Lzh
