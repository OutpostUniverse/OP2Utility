import Op2Model.Lzh
/-!
The circular window holds the last 4096 bytes of the unbounded history `hist` (most recent byte first).
`WInv buf w hist`: the byte `d + 1` positions back in the history sits at circular index `w - 1 - d`.
-/
namespace Op2.Lzh
open Op2 Op2.Lzh.Spec

def vwB (a : Array UInt8) : Nat → UInt8 := fun i => a.getD i 0

theorem vwB_set (a : Array UInt8) (i : Nat) (v : UInt8) (h : i < a.size) (j : Nat) :
    vwB (a.setIfInBounds i v) j = if j = i then v else vwB a j := by
  simp only [vwB, Array.getD_eq_getD_getElem?, Array.getElem?_setIfInBounds]
  by_cases e : j = i
  · subst e; simp [h]
  · have : ¬ (i = j) := fun h => e h.symm
    simp [e, this]

structure WInv (buf : Array UInt8) (w : Nat) (hist : List UInt8) : Prop where
  size : buf.size = N
  hw : w < N
  win : ∀ d, d < N → vwB buf ((w + N - 1 - d) % N) = histAt hist d

theorem histAt_cons_zero (hist : List UInt8) (c : UInt8) : histAt (c :: hist) 0 = c := rfl
theorem histAt_cons_succ (hist : List UInt8) (c : UInt8) (d : Nat) : histAt (c :: hist) (d + 1) = histAt hist d := rfl

theorem init_winv : WInv (Array.replicate N fillByte) 0 [] := by
  refine ⟨by simp, by decide, ?_⟩
  intro d hd
  have hlt : (0 + N - 1 - d) % N < N := Nat.mod_lt _ (by decide)
  show (Array.replicate N fillByte).getD ((0 + N - 1 - d) % N) 0 = histAt [] d
  rw [Array.getD_eq_getD_getElem?, Array.getElem?_replicate, if_pos hlt]
  simp [histAt]

theorem put_inv {buf : Array UInt8} {w : Nat} {hist : List UInt8} (h : WInv buf w hist) (c : UInt8) :
    WInv (put buf w c).1 (put buf w c).2 (c :: hist) := by
  obtain ⟨hs, hw, hb⟩ := h
  refine ⟨by simp [put, hs], Nat.mod_lt _ (by decide), ?_⟩
  intro d hd
  show vwB (buf.setIfInBounds w c) (((w + 1) % N + N - 1 - d) % N) = _
  rw [vwB_set _ _ _ (by omega)]
  cases d with
  | zero =>
    have : ((w + 1) % N + N - 1 - 0) % N = w := by unfold N at *; omega
    rw [this, if_pos rfl, histAt_cons_zero]
  | succ d =>
    have e : ((w + 1) % N + N - 1 - (d + 1)) % N = (w + N - 1 - d) % N := by unfold N at *; omega
    have ne : (w + N - 1 - d) % N ≠ w := by unfold N at *; omega
    rw [e, histAt_cons_succ, if_neg ne]
    exact hb d (by omega)

theorem put_w (buf : Array UInt8) (w : Nat) (c : UInt8) : (put buf w c).2 = (w + 1) % N := rfl

/-- the copy loop of a repeat block, for any length and any (also overlapping) offset -/
theorem copy_refines : ∀ len (buf : Array UInt8) (w : Nat) (hist : List UInt8) (off start : Nat), WInv buf w hist → off < N →
    start = (w + N - off - 1) % N →
    WInv (copyMatch buf w start len).1 (copyMatch buf w start len).2 (Spec.copy hist off len) ∧
    (copyMatch buf w start len).2 = (w + len) % N := by
  intro len
  induction len with
  | zero => intro buf w hist off start h _ _; exact ⟨h, by have := h.hw; simp [copyMatch, Nat.mod_eq_of_lt this]⟩
  | succ len ih =>
    intro buf w hist off start h hoff hst
    simp only [copyMatch, Spec.copy]
    have hbyte : buf.getD start 0 = histAt hist off := by
      have := h.win off hoff
      rw [hst]
      have e : (w + N - off - 1) % N = (w + N - 1 - off) % N := by
        have := h.hw; unfold N at *; omega
      rw [e]; exact this
    rw [hbyte]
    have hw := h.hw
    obtain ⟨i1, i2⟩ := ih (put buf w (histAt hist off)).1 (put buf w (histAt hist off)).2 (histAt hist off :: hist) off
      ((start + 1) % N) (put_inv h _) hoff (by rw [put_w, hst]; unfold N at *; omega)
    refine ⟨i1, ?_⟩
    rw [i2, put_w]; unfold N at *; omega

theorem copy_length (hist : List UInt8) (off : Nat) : ∀ len, (Spec.copy hist off len).length = hist.length + len := by
  intro len
  induction len generalizing hist with
  | zero => rfl
  | succ len ih => simp only [Spec.copy]; rw [ih]; simp; omega

theorem copy_suffix (hist : List UInt8) (off : Nat) : ∀ len, hist <:+ Spec.copy hist off len := by
  intro len
  induction len generalizing hist with
  | zero => exact List.suffix_refl _
  | succ len ih => simp only [Spec.copy]; exact List.IsSuffix.trans (List.suffix_cons _ _) (ih _)

end Op2.Lzh
