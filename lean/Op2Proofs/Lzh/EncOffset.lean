import Op2Proofs.Lzh.Bits
import Op2Proofs.Lzh.EncBits
/-!
`GetRepeatOffset` on `offsetBits off` returns `off`.  An offset code is a prefix `pv` of `wd` bits (3 ≤ `wd` ≤ 8)
followed by the six low bits; read as one number these `wd + 6 = 8 + (wd - 2)` bits are `pv * 64 + lo`.  `ReadNext8Bits`
returns its top eight bits, `GetOffsetModifiers` maps those to "`wd - 2` more bits" and the upper six bits, and the
extra-bit loop rebuilds the number (`repeatOffset_code`).  The six prefix classes enter only through `offsetBits_class`.
-/
namespace Op2.Lzh
open Op2 Op2.Lzh.Spec

theorem bitsOf_lt (k v : Nat) : ∀ b ∈ bitsOf k v, b < 2 := by
  intro b hb
  unfold bitsOf at hb
  rw [List.mem_map] at hb
  obtain ⟨i, _, rfl⟩ := hb
  omega

theorem length_bitsOf (k v : Nat) : (bitsOf k v).length = k := by simp [bitsOf]

theorem Starts.bitsVal {data : Array UInt8} {p k v : Nat} (h : Starts data p (bitsOf k v)) : bitsVal data p k = v % 2 ^ k := by
  have := bitsVal_digits data p v k (fun i hi => by
    rw [h.2 i (by rw [length_bitsOf]; exact hi)]
    simp [bitsOf, List.getD_eq_getElem?_getD, hi, Nat.shiftRight_eq_div_pow]) k (Nat.le_refl k)
  rw [this, Nat.sub_self, Nat.pow_zero, Nat.div_one]

theorem readExtra_eq (data : Array UInt8) : ∀ k acc p, p + k ≤ bitSize data →
    readExtra data k acc p = (acc * 2 ^ k + bitsVal data p k, p + k) := by
  intro k
  induction k with
  | zero => intro acc p _; simp [readExtra, bitsVal]
  | succ k ih =>
    intro acc p h
    have h1 : bitsVal data p 1 = bitAt data p := by simp [bitsVal]
    rw [readExtra, readBit, if_neg (by omega)]
    show readExtra data k (acc * 2 + bitAt data p) (p + 1) = _
    rw [ih _ _ (by omega), Nat.add_comm k 1, bitsVal_add, h1, Nat.pow_add, Nat.pow_one,
      Nat.add_mul, Nat.mul_assoc, Nat.add_assoc, Nat.add_assoc]

theorem read8_eq (data : Array UInt8) (p : Nat) (h : p < bitSize data) : read8 data p = (bitsVal data p 8, p + 8) := by
  rw [read8, if_neg (by omega), bits8_eq]

theorem repeatOffset_code (data : Array UInt8) (p wd pv lo up : Nat) (hwd : 2 ≤ wd) (hpv : pv < 2 ^ wd) (hlo : lo < 64)
    (hm : offsetMods ((pv * 64 + lo) / 2 ^ (wd - 2)) = (wd - 2, up))
    (h : Starts data p (bitsOf wd pv ++ bitsOf 6 lo)) :
    repeatOffset data p = (up * 64 + lo, p + (wd + 6)) := by
  obtain ⟨h1, h2⟩ := h.append
  have hsz := h.1
  rw [List.length_append, length_bitsOf, length_bitsOf] at hsz
  rw [length_bitsOf] at h2
  have hV : bitsVal data p 8 * 2 ^ (wd - 2) + bitsVal data (p + 8) (wd - 2) = pv * 64 + lo := by
    rw [← bitsVal_add, show 8 + (wd - 2) = wd + 6 by omega, bitsVal_add, h1.bitsVal, h2.bitsVal, Nat.mod_eq_of_lt hpv,
      Nat.mod_eq_of_lt hlo]
  have hx := bitsVal_lt data (p + 8) (wd - 2)
  have ho : bitsVal data p 8 = (pv * 64 + lo) / 2 ^ (wd - 2) := by
    rw [← hV, Nat.mul_comm, Nat.mul_add_div (Nat.two_pow_pos _), Nat.div_eq_of_lt hx, Nat.add_zero]
  unfold repeatOffset
  rw [read8_eq data p (by omega)]
  simp only [ho, hm]
  rw [readExtra_eq data _ _ _ (by omega), ← ho, hV, Nat.mul_comm pv 64, Nat.mul_add_mod, Nat.mod_eq_of_lt hlo,
    show p + 8 + (wd - 2) = p + (wd + 6) by omega]

theorem offsetBits_class (off : Nat) : ∃ wd pv,
    offsetBits off = bitsOf wd pv ++ bitsOf 6 (off % 64) ∧
    (off < 4096 → 2 ≤ wd ∧ pv < 2 ^ wd ∧ offsetMods ((pv * 64 + off % 64) / 2 ^ (wd - 2)) = (wd - 2, off / 64)) := by
  have hlo : off % 64 < 64 := Nat.mod_lt _ (by omega)
  have hup : off < 4096 → off / 64 < 64 := by omega
  unfold offsetBits
  simp only []
  generalize off / 64 = up at *
  generalize off % 64 = lo at *
  by_cases c1 : up = 0
  · refine ⟨3, 0, by rw [if_pos c1], fun _ => ⟨by omega, by omega, ?_⟩⟩
    rw [offsetMods, if_pos (by omega), Prod.mk.injEq]; omega
  by_cases c2 : up < 4
  · refine ⟨4, up + 1, by rw [if_neg c1, if_pos c2], fun _ => ⟨by omega, by omega, ?_⟩⟩
    rw [offsetMods, if_neg (by omega), if_pos (by omega), Prod.mk.injEq]; omega
  by_cases c3 : up < 12
  · refine ⟨5, up + 6, by rw [if_neg c1, if_neg c2, if_pos c3], fun _ => ⟨by omega, by omega, ?_⟩⟩
    rw [offsetMods, if_neg (by omega), if_neg (by omega), if_pos (by omega), Prod.mk.injEq]; omega
  by_cases c4 : up < 24
  · refine ⟨6, up + 24, by rw [if_neg c1, if_neg c2, if_neg c3, if_pos c4], fun _ => ⟨by omega, by omega, ?_⟩⟩
    rw [offsetMods, if_neg (by omega), if_neg (by omega), if_neg (by omega), if_pos (by omega), Prod.mk.injEq]; omega
  by_cases c5 : up < 48
  · refine ⟨7, up + 72, by rw [if_neg c1, if_neg c2, if_neg c3, if_neg c4, if_pos c5], fun _ => ⟨by omega, by omega, ?_⟩⟩
    rw [offsetMods, if_neg (by omega), if_neg (by omega), if_neg (by omega), if_neg (by omega), if_pos (by omega), Prod.mk.injEq]
    omega
  · refine ⟨8, up + 192, by rw [if_neg c1, if_neg c2, if_neg c3, if_neg c4, if_neg c5], fun h => ?_⟩
    have := hup h
    refine ⟨by omega, by omega, ?_⟩
    rw [offsetMods, if_neg (by omega), if_neg (by omega), if_neg (by omega), if_neg (by omega), if_neg (by omega), Prod.mk.injEq]
    omega

theorem offsetBits_bits (off : Nat) : ∀ b ∈ offsetBits off, b < 2 := by
  obtain ⟨wd, pv, e, _⟩ := offsetBits_class off
  intro b hb
  rw [e] at hb
  rcases List.mem_append.mp hb with h | h <;> exact bitsOf_lt _ _ b h

theorem repeatOffset_offsetBits (data : Array UInt8) (p off : Nat) (hoff : off < 4096) (h : Starts data p (offsetBits off)) :
    repeatOffset data p = (off, p + (offsetBits off).length) := by
  obtain ⟨wd, pv, e, hc⟩ := offsetBits_class off
  obtain ⟨hwd, hpv, hm⟩ := hc hoff
  rw [e] at h ⊢
  rw [repeatOffset_code data p wd pv _ _ hwd hpv (Nat.mod_lt _ (by omega)) hm h, List.length_append, length_bitsOf, length_bitsOf,
    Nat.div_add_mod']

theorem offsetBits_pos (off : Nat) : 0 < (offsetBits off).length := by
  unfold offsetBits
  simp only [List.length_append, length_bitsOf]
  omega

end Op2.Lzh
