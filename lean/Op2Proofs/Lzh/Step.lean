import Op2Proofs.Lzh.Window
import Op2Proofs.Lzh.Bits
import Op2Proofs.Huff.Arr
/-!
One code: `DecompressCode` on the circular window refines the reference step on the unbounded history.  A code that
decodes is a token, a literal or a match (`decodeSym_cases`); writing a token through the window keeps `WInv` with the
history the token expands to (`dc_tok`, `dc_refines`).
-/
namespace Op2.Lzh
open Op2 Op2.Huff Op2.Lzh.Spec

theorem offsetMods_up (o : Nat) (h : o < 256) : (offsetMods o).2 ≤ 63 := by
  unfold offsetMods
  split; · simp
  split; · simp; omega
  split; · simp; omega
  split; · simp; omega
  split; · simp; omega
  simp; omega

theorem repeatOffset_lt (data : Array UInt8) (p : Nat) : (repeatOffset data p).1 < N := by
  unfold repeatOffset
  have h1 := read8_lt data p
  have h2 := offsetMods_up (read8 data p).1 h1
  show (offsetMods (read8 data p).1).2 * 64 + _ % 64 < N
  unfold N; omega

namespace Spec
def Token.code : Token → Nat
  | .lit b => b
  | .mat len _ => len + matchBase

def tokExpand (hist : List UInt8) : Token → List UInt8
  | .lit b => UInt8.ofNat b :: hist
  | .mat len dist => copy hist (dist - 1) len

def tokSym (t' : TA) (q : Nat) : Token → Sym
  | .lit b => .lit t' q b
  | .mat len dist => .mat t' q (dist - 1) len
end Spec

theorem tokExpand_suffix (hist : List UInt8) (tok : Token) : hist <:+ tokExpand hist tok := by
  cases tok with
  | lit b => exact List.suffix_cons _ _
  | mat len dist => exact copy_suffix _ _ _

theorem decodeSym_cases (data : Array UInt8) (t : TA) (p : Nat) :
    (decodeSym data t p = .badQuery ∧ ∃ e, nextCode t data t.n t.root p = .error e) ∨
    (∃ code p1, decodeSym data t p = .full p1 ∧ nextCode t data t.n t.root p = .ok (code, p1) ∧
      ∃ e, t.updateChecked code = .error e) ∨
    ∃ t' q tok p1, decodeSym data t p = tokSym t' q tok ∧ nextCode t data t.n t.root p = .ok (tok.code, p1) ∧
      t.updateChecked tok.code = .ok t' ∧
      (match tok with
       | .lit c => c < 256 ∧ q = p1
       | .mat len dist => 256 ≤ len + matchBase ∧ dist = (repeatOffset data p1).1 + 1 ∧ q = (repeatOffset data p1).2) := by
  cases hn : nextCode t data t.n t.root p with
  | error e => exact Or.inl ⟨by simp only [decodeSym, hn], e, rfl⟩
  | ok cp =>
    obtain ⟨code, p1⟩ := cp
    cases hu : t.updateChecked code with
    | error e => exact Or.inr (Or.inl ⟨code, p1, by simp only [decodeSym, hn, hu], rfl, e, hu⟩)
    | ok t' =>
      refine Or.inr (Or.inr ?_)
      by_cases hl : code < 256
      · exact ⟨t', p1, .lit code, p1, by simp only [decodeSym, hn, hu, if_pos hl, tokSym], rfl, hu, hl, rfl⟩
      · obtain ⟨len, rfl⟩ : ∃ len, code = len + matchBase := ⟨code - matchBase, by unfold matchBase; omega⟩
        exact ⟨t', _, .mat len ((repeatOffset data p1).1 + 1), p1,
          by simp only [decodeSym, hn, hu, if_neg hl, tokSym, Nat.add_sub_cancel], rfl, hu, by omega, rfl, rfl⟩

theorem decodeSym_mat {data : Array UInt8} {t t' : TA} {p p2 off len : Nat} (hT : t.T = symbolCount)
    (h : decodeSym data t p = .mat t' p2 off len) : off < N ∧ 3 ≤ len ∧ len ≤ 60 := by
  rcases decodeSym_cases data t p with ⟨hb, _⟩ | ⟨_, _, hf, _⟩ | ⟨t'', q, tok, p1, hs, _, hu, hm⟩
  · rw [hb] at h; cases h
  · rw [hf] at h; cases h
  · rw [h] at hs
    cases tok with
    | lit c => cases hs
    | mat len' dist =>
      cases hs
      obtain ⟨h256, rfl, _⟩ := hm
      have hc : len + matchBase < symbolCount := hT ▸ (TA.updateChecked_eq_ok.mp hu).1
      exact ⟨repeatOffset_lt _ _, by unfold matchBase at h256; omega, by unfold matchBase symbolCount at hc; omega⟩

theorem step_tok {data : Array UInt8} {t t' : TA} {p q : Nat} {tok : Token} (h : decodeSym data t p = tokSym t' q tok)
    (hist : List UInt8) :
    Spec.step data t p hist = if endOfStream data q then .last (tokExpand hist tok) else .next t' q (tokExpand hist tok) := by
  unfold Spec.step
  rw [h]
  cases tok <;> rfl

/-- one successful `DecompressCode`: `k` bytes appended, everything else untouched -/
structure Stepped (st st' : St) (hist hist' : List UInt8) : Prop where
  data : st'.data = st.data
  r : st'.r = st.r
  eos : st'.eos = st.eos
  win : WInv st'.buf st'.w hist'
  grow : ∃ k, 1 ≤ k ∧ k ≤ 60 ∧ hist'.length = hist.length + k ∧ st'.w = (st.w + k) % N
  suffix : hist <:+ hist'

theorem dc_tok {st : St} {hist : List UInt8} {t' : TA} {q : Nat} {tok : Token} (h : WInv st.buf st.w hist)
    (hT : st.tree.T = symbolCount) (hs : decodeSym st.data st.tree st.pos = tokSym t' q tok) :
    ∃ st', decompressCode st = (st', if endOfStream st.data q then .eos else .more) ∧ st'.tree = t' ∧ st'.pos = q ∧
      Stepped st st' hist (tokExpand hist tok) := by
  unfold decompressCode
  cases tok with
  | lit c =>
    rw [hs]
    exact ⟨_, rfl, rfl, rfl, rfl, rfl, rfl, put_inv h (UInt8.ofNat c), ⟨1, by omega, by omega, by simp [tokExpand], rfl⟩,
      List.suffix_cons _ _⟩
  | mat len dist =>
    obtain ⟨hoff, hl3, hl60⟩ := decodeSym_mat hT hs
    obtain ⟨c1, c2⟩ := copy_refines len st.buf st.w hist (dist - 1) ((st.w + N - (dist - 1) - 1) % N) h hoff rfl
    rw [hs]
    exact ⟨_, rfl, rfl, rfl, rfl, rfl, rfl, c1, ⟨len, by omega, hl60, copy_length _ _ _, c2⟩, copy_suffix _ _ _⟩

theorem dc_refines (st : St) (hist : List UInt8) (h : WInv st.buf st.w hist) (hT : st.tree.T = symbolCount) :
    match Spec.step st.data st.tree st.pos hist with
    | .next t' p' hist' => ∃ st', decompressCode st = (st', .more) ∧ st'.tree = t' ∧ st'.pos = p' ∧ Stepped st st' hist hist'
    | .last hist' => ∃ st', decompressCode st = (st', .eos) ∧ Stepped st st' hist hist'
    | .cap => ∃ st', decompressCode st = (st', .err) := by
  rcases decodeSym_cases st.data st.tree st.pos with ⟨hb, _⟩ | ⟨_, p1, hf, _⟩ | ⟨t', q, tok, _, hs, _⟩
  · simp only [Spec.step, decompressCode, hb]; exact ⟨st, rfl⟩
  · simp only [Spec.step, decompressCode, hf]; exact ⟨_, rfl⟩
  · obtain ⟨st', e, e1, e2, S⟩ := dc_tok h hT hs
    rw [step_tok hs]
    by_cases he : endOfStream st.data q = true
    · rw [if_pos he] at e ⊢; exact ⟨st', e, S⟩
    · rw [if_neg he] at e ⊢; exact ⟨st', e, e1, e2, S⟩

end Op2.Lzh
