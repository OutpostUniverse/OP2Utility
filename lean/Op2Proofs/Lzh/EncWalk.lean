import Op2Proofs.Lzh.Good
import Op2Proofs.Lzh.EncBits
import Op2Proofs.Huff.Code
/-!
# Reading back one Huffman code: `nextCode` along the encoder's root-to-leaf bits ends on that symbol's leaf
-/
namespace Op2.Lzh
open Op2 Op2.Huff Op2.Lzh.Spec

theorem nextCode_up {t : TA} (k : TreeOk t) (data : Array UInt8) : ∀ fuel j, j < t.n → t.root - j ≤ fuel → ∀ F p,
    Starts data p (TF.up t.view j fuel).reverse →
    nextCode t data (F + (TF.up t.view j fuel).length) t.root p = nextCode t data F j (p + (TF.up t.view j fuel).length) := by
  intro fuel
  induction fuel with
  | zero =>
    intro j hj hd F p _
    have : j = t.root := by unfold TA.root at *; omega
    subst this; simp [TF.up]
  | succ f ih =>
    intro j hj hd F p hs
    simp only [TF.up] at hs ⊢
    split
    · rename_i e
      have : j = t.root := e
      subst this; simp
    · rename_i e
      rw [if_neg e] at hs
      have hj' : j < t.view.n - 1 := TF.lt_root hj e
      obtain ⟨hp, hinner, hlt, _⟩ := k.wf.st.parent_lt hj'
      have hdown := k.wf.st.down hj'
      rw [List.reverse_cons] at hs
      obtain ⟨hs1, hs2⟩ := hs.append
      rw [List.length_reverse] at hs2
      obtain ⟨hb, _⟩ := hs2.cons
      have := ih (t.view.par j) hp (by unfold TA.root at *; omega) (F + 1) p hs1
      simp only [List.length_cons]
      rw [show F + ((TF.up t.view (t.view.par j) f).length + 1) = F + 1 + (TF.up t.view (t.view.par j) f).length by omega, this]
      have hl : ¬ (t.link.getD (t.view.par j) 0 ≥ t.n) := Nat.not_le.mpr hinner
      rw [nextCode_succ t data F _ _ hp, if_neg hl, hb]
      have : t.link.getD (t.view.par j) 0 + j % 2 = j := hdown
      rw [this]
      rw [show p + (TF.up t.view (t.view.par j) f).length + 1 = p + ((TF.up t.view (t.view.par j) f).length + 1) by omega]

theorem codeBits_pos {t : TA} (k : TreeOk t) {c : Nat} (hc : c < t.T) : 0 < (codeBits t c).length := by
  have hn : 0 < t.n := Nat.zero_lt_of_lt k.root_lt
  unfold codeBits TF.encode
  rw [List.length_reverse]
  exact TF.up_pos _ _ _ (k.leaf hc).2.2 hn

theorem codeBits_bits (t : TA) (c : Nat) : ∀ b ∈ codeBits t c, b < 2 := TF.encode_bits t.view c

theorem nextCode_encode {t : TA} (k : TreeOk t) (data : Array UInt8) {c : Nat} (hc : c < t.T) (p : Nat)
    (hs : Starts data p (codeBits t c)) : nextCode t data t.n t.root p = .ok (c, p + (codeBits t c).length) := by
  obtain ⟨h1, h2, _⟩ := k.leaf hc
  have hlen := TF.up_length_le k.wf.st t.n _ h1
  unfold codeBits TF.encode at hs ⊢
  rw [TA.view_par, TA.view_n] at hs ⊢
  rw [List.length_reverse]
  generalize t.par.getD (c + t.n) 0 = j at *
  have hroot : t.view.root = t.n - 1 := rfl
  have hF : t.n = (t.n - (TF.up t.view j t.n).length - 1 + 1) + (TF.up t.view j t.n).length := by omega
  have := nextCode_up k data t.n j h1 (TF.root_sub_le t.view j) (t.n - (TF.up t.view j t.n).length - 1 + 1) p hs
  rw [← hF] at this
  rw [this, nextCode_succ t data _ j _ h1, if_pos (by omega), show t.link.getD j 0 - t.n = c by omega]

end Op2.Lzh
