import Op2Model.Lzh
/-!
The encoder's packing read back by the decoder's bit function.  A bit list spells a number by Horner's rule
(`byteOfBits`); bit `j` of that number is the list's `j`-th entry, so `bitAt (packBits bs).toArray p = bs.getD p 0` at
every position (zero padding past the end of the list).  `Starts data p bs`: the stream continues with `bs` at `p`.
-/
namespace Op2.Lzh
open Op2 Op2.Lzh.Spec

theorem foldl_bits (l : List Nat) (hb : ∀ b ∈ l, b < 2) : ∀ acc,
    l.foldl (fun a b => a * 2 + b) acc = acc * 2 ^ l.length + l.foldl (fun a b => a * 2 + b) 0 ∧
    l.foldl (fun a b => a * 2 + b) 0 < 2 ^ l.length := by
  induction l with
  | nil => intro acc; simp
  | cons b bs ih =>
    intro acc
    have hb0 := hb b (by simp)
    obtain ⟨e1, _⟩ := ih (fun x hx => hb x (List.mem_cons_of_mem _ hx)) (acc * 2 + b)
    obtain ⟨e2, h2⟩ := ih (fun x hx => hb x (List.mem_cons_of_mem _ hx)) b
    simp only [List.foldl_cons, List.length_cons, Nat.pow_succ, Nat.zero_mul, Nat.zero_add]
    rw [e1, e2]
    refine ⟨?_, ?_⟩
    · rw [Nat.add_mul, Nat.mul_assoc, Nat.mul_comm 2, Nat.add_assoc]
    · have : b * 2 ^ bs.length ≤ 1 * 2 ^ bs.length := Nat.mul_le_mul_right _ (by omega)
      omega

theorem foldl_bit (l : List Nat) (hb : ∀ b ∈ l, b < 2) : ∀ acc j, j < l.length →
    l.foldl (fun a b => a * 2 + b) acc / 2 ^ (l.length - 1 - j) % 2 = l.getD j 0 := by
  induction l with
  | nil => intro acc j h; simp at h
  | cons b bs ih =>
    intro acc j hj
    have hbs : ∀ x ∈ bs, x < 2 := fun x hx => hb x (List.mem_cons_of_mem _ hx)
    cases j with
    | zero =>
      obtain ⟨e, h⟩ := foldl_bits bs hbs (acc * 2 + b)
      have hb0 := hb b (by simp)
      simp only [List.foldl_cons, List.length_cons, Nat.add_sub_cancel, Nat.sub_zero, List.getD_cons_zero]
      rw [e, Nat.mul_comm, Nat.mul_add_div (Nat.two_pow_pos _), Nat.div_eq_of_lt h]
      omega
    | succ j =>
      simp only [List.length_cons] at hj
      simp only [List.foldl_cons, List.length_cons, List.getD_cons_succ]
      rw [show bs.length + 1 - 1 - (j + 1) = bs.length - 1 - j by omega]
      exact ih hbs _ j (by omega)

theorem getD_pad (chunk : List Nat) (k j : Nat) : (chunk ++ List.replicate k 0).getD j 0 = chunk.getD j 0 := by
  simp only [List.getD_eq_getElem?_getD]
  by_cases h : j < chunk.length
  · rw [List.getElem?_append_left h]
  · rw [List.getElem?_append_right (by omega), List.getElem?_eq_none (show chunk.length ≤ j by omega)]
    by_cases h2 : j - chunk.length < k
    · rw [List.getElem?_replicate_of_lt h2]; rfl
    · rw [List.getElem?_eq_none (by simp; omega)]

theorem byteOfBits_bit (chunk : List Nat) (hb : ∀ b ∈ chunk, b < 2) (hl : chunk.length ≤ 8) (j : Nat) (hj : j < 8) :
    ((byteOfBits chunk).toNat >>> (7 - j)) % 2 = chunk.getD j 0 := by
  have hlen : (chunk ++ List.replicate (8 - chunk.length) 0).length = 8 := by simp; omega
  have hbits : ∀ b ∈ chunk ++ List.replicate (8 - chunk.length) 0, b < 2 := by
    intro b hm
    rcases List.mem_append.mp hm with h | h
    · exact hb b h
    · have := List.eq_of_mem_replicate h; omega
  have hlt := (foldl_bits _ hbits 0).2
  have hbit := foldl_bit _ hbits 0 j (by omega)
  rw [hlen] at hlt hbit
  rw [getD_pad] at hbit
  unfold byteOfBits
  rw [UInt8.toNat_ofNat', Nat.shiftRight_eq_div_pow, Nat.mod_eq_of_lt hlt]
  exact hbit

theorem bitAt_toArray (l : List UInt8) (p : Nat) : bitAt l.toArray p = ((l.getD (p / 8) 0).toNat >>> (7 - p % 8)) % 2 := by
  simp [bitAt, Array.getD_eq_getD_getElem?, List.getD_eq_getElem?_getD]

theorem bitAt_packAux : ∀ (fuel : Nat) (bs : List Nat), bs.length ≤ fuel → (∀ b ∈ bs, b < 2) → ∀ p,
    bitAt (packAux fuel bs).toArray p = bs.getD p 0 := by
  intro fuel
  induction fuel with
  | zero =>
    intro bs hl hb p
    rw [List.eq_nil_of_length_eq_zero (Nat.le_zero.mp hl)]
    simp [packAux, bitAt_toArray]
  | succ f ih =>
    intro bs hl hb p
    cases bs with
    | nil => simp [packAux, bitAt_toArray]
    | cons b bs =>
      rw [packAux, bitAt_toArray]
      by_cases hp : p < 8
      · -- a bit of the first byte
        rw [show p / 8 = 0 by omega, show p % 8 = p by omega, List.getD_cons_zero,
          byteOfBits_bit _ (fun x hx => hb x (List.mem_of_mem_take hx)) (List.length_take_le _ _) p hp]
        simp only [List.getD_eq_getElem?_getD, List.getElem?_take, if_pos hp]
      · have hrec := ih ((b :: bs).drop 8) (by simp only [List.length_drop, List.length_cons] at hl ⊢; omega)
          (fun x hx => hb x (List.mem_of_mem_drop hx)) (p - 8)
        rw [bitAt_toArray] at hrec
        rw [show p / 8 = (p - 8) / 8 + 1 by omega, show p % 8 = (p - 8) % 8 by omega, List.getD_cons_succ, hrec]
        simp only [List.getD_eq_getElem?_getD, List.getElem?_drop]
        rw [show 8 + (p - 8) = p by omega]

theorem length_packAux : ∀ (fuel : Nat) (bs : List Nat), bs.length ≤ fuel → (packAux fuel bs).length = (bs.length + 7) / 8 := by
  intro fuel
  induction fuel with
  | zero => intro bs hl; rw [List.eq_nil_of_length_eq_zero (Nat.le_zero.mp hl)]; rfl
  | succ f ih =>
    intro bs hl
    cases bs with
    | nil => rfl
    | cons b bs =>
      simp only [packAux, List.length_cons]
      rw [ih ((b :: bs).drop 8) (by simp only [List.length_drop, List.length_cons] at hl ⊢; omega)]
      simp only [List.length_drop, List.length_cons]
      omega

theorem bitAt_packBits (bs : List Nat) (hb : ∀ b ∈ bs, b < 2) (p : Nat) : bitAt (packBits bs).toArray p = bs.getD p 0 :=
  bitAt_packAux bs.length bs (Nat.le_refl _) hb p

theorem bitSize_packBits (bs : List Nat) : bitSize (packBits bs).toArray = 8 * ((bs.length + 7) / 8) := by
  unfold bitSize packBits
  rw [List.size_toArray, length_packAux _ _ (Nat.le_refl _)]

def Starts (data : Array UInt8) (p : Nat) (bs : List Nat) : Prop :=
  p + bs.length ≤ bitSize data ∧ ∀ i, i < bs.length → bitAt data (p + i) = bs.getD i 0

theorem Starts.append {data : Array UInt8} {p : Nat} {a b : List Nat} (h : Starts data p (a ++ b)) :
    Starts data p a ∧ Starts data (p + a.length) b := by
  obtain ⟨h1, h2⟩ := h
  rw [List.length_append] at h1
  refine ⟨⟨by omega, ?_⟩, ⟨by omega, ?_⟩⟩
  · intro i hi
    have := h2 i (by rw [List.length_append]; omega)
    rw [this]
    simp only [List.getD_eq_getElem?_getD]
    rw [List.getElem?_append_left hi]
  · intro i hi
    have := h2 (a.length + i) (by rw [List.length_append]; omega)
    rw [show p + a.length + i = p + (a.length + i) by omega, this]
    simp only [List.getD_eq_getElem?_getD]
    rw [List.getElem?_append_right (by omega)]
    rw [show a.length + i - a.length = i by omega]

theorem Starts.lt {data : Array UInt8} {p b : Nat} {bs : List Nat} (h : Starts data p (b :: bs)) : p < bitSize data := by
  have := h.1; simp only [List.length_cons] at this; omega

theorem Starts.cons {data : Array UInt8} {p b : Nat} {bs : List Nat} (h : Starts data p (b :: bs)) :
    readBit data p = (b, p + 1) ∧ Starts data (p + 1) bs := by
  obtain ⟨h1, h2⟩ := Starts.append (a := [b]) h
  have hb : bitAt data p = b := h1.2 0 (Nat.lt_succ_self 0)
  exact ⟨by rw [readBit, if_neg (Nat.not_le.mpr h.lt), hb], h2⟩

theorem starts_packBits (bs : List Nat) (hb : ∀ b ∈ bs, b < 2) : Starts (packBits bs).toArray 0 bs := by
  refine ⟨by rw [bitSize_packBits]; omega, fun i _ => ?_⟩
  rw [Nat.zero_add]
  exact bitAt_packBits bs hb i

end Op2.Lzh
