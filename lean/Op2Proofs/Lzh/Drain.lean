import Op2Proofs.Lzh.Good
import Op2Proofs.Word
/-!
The output queue.  `fill` keeps `Inv`; what hands out bytes (`CopyAvailableData`, `GetData`, `GetInternalBuffer`) is a
`Delivers`: the bytes it returns are the next bytes of the reference result `res`, and it leaves a state satisfying `Inv`
with `taken` moved on.  Deliveries compose (`Delivers.trans`): all a drain schedule needs.
-/
namespace Op2.Lzh
open Op2 Op2.Huff Op2.Lzh.Spec

/-- evaluated on the regenerated constant (`Gen.Constants.huff_maxFill`): the window can always take one more code;
    `C04_gen_maxFill_safe` is this statement -/
theorem maxFill_safe : 0 < maxFill ∧ maxFill + 60 < N := by decide

/-- `hist` (most recent first) is what has been decoded: `taken` bytes of it have been delivered, its last `unread`
    bytes wait in the window; `res` is what the reference run ends with -/
structure Inv (data : Array UInt8) (st : St) (hist : List UInt8) (taken : Nat) (res : List UInt8 × Status) : Prop where
  hdata : st.data = data
  win : WInv st.buf st.w hist
  hr : st.r < N
  cnt : taken + st.unread = hist.length
  opn : st.eos = false → Good data st.tree st.pos hist res ∧ TreeOk st.tree
  closed : st.eos = true → res = (hist, .done)

theorem inv_init {data : Array UInt8} {res : List UInt8 × Status} (g : Good data (TA.init symbolCount) 0 [] res) :
    Inv data (St.init data) [] 0 res :=
  ⟨rfl, init_winv, by show (0 : Nat) < N; decide, by show 0 + (0 + N - 0) % N = 0; decide,
   fun _ => ⟨g, treeOk_init⟩, fun h => by simp [St.init] at h⟩

theorem Inv.suffix {data st hist taken res} (i : Inv data st hist taken res) : hist <:+ res.1 := by
  cases h : st.eos with
  | false => exact (i.opn h).1.suffix
  | true => rw [i.closed h]; exact List.suffix_refl _

theorem Inv.done {data st hist taken res} (i : Inv data st hist taken res) (he : st.eos = true) (h0 : st.unread = 0) :
    taken = res.1.length := by
  have := i.cnt
  rw [i.closed he]; show taken = hist.length; omega

theorem unread_lt (st : St) : st.unread < N := Nat.mod_lt _ (by decide)

theorem unread_eq (st : St) : st.unread = (st.w + N - st.r) % N := rfl

theorem dist_write {w r k : Nat} (hw : w < N) (hr : r < N) (h : (w + N - r) % N + k < N) :
    ((w + k) % N + N - r) % N = (w + N - r) % N + k := by
  unfold N at *; omega

theorem dist_read {w r m : Nat} (hw : w < N) (hr : r < N) (hm : m ≤ (w + N - r) % N) :
    (w + N - (r + m) % N) % N = (w + N - r) % N - m := by
  unfold N at *; omega

theorem Stepped.queue {data st st' hist hist' taken res} (S : Stepped st st' hist hist') (i : Inv data st hist taken res)
    (hu : st.unread < maxFill) :
    st'.data = data ∧ st'.r < N ∧ taken + st'.unread = hist'.length ∧ st.unread < st'.unread := by
  obtain ⟨k, k1, k60, kl, kw⟩ := S.grow
  have hms := maxFill_safe
  have hun : st'.unread = st.unread + k := by
    rw [unread_eq, S.r, kw]; exact dist_write i.win.hw i.hr (by rw [← unread_eq]; omega)
  have := i.cnt
  exact ⟨S.data.trans i.hdata, S.r ▸ i.hr, by omega, by omega⟩

theorem fillLoop_spec (data : Array UInt8) (res : List UInt8 × Status) (taken : Nat) :
    ∀ fuel (st : St) (hist : List UInt8), Inv data st hist taken res → st.eos = false → maxFill - st.unread ≤ fuel →
      (∃ st1, fillLoop fuel st = (st1, true) ∧ res.2 = .capacity) ∨
      (∃ st1 hist1, fillLoop fuel st = (st1, false) ∧ Inv data st1 hist1 taken res ∧
          (st1.eos = true ∨ maxFill ≤ st1.unread)) := by
  intro fuel
  induction fuel with
  | zero => intro st hist i he hf; exact Or.inr ⟨st, hist, rfl, i, Or.inr (by omega)⟩
  | succ f ih =>
    intro st hist i he hf
    simp only [fillLoop]
    by_cases hu : st.unread < maxFill
    · rw [if_pos hu]
      obtain ⟨g, tk⟩ := i.opn he
      have hd := dc_refines st hist i.win tk.hT
      have hg := g.step
      rw [i.hdata] at hd
      cases hs : Spec.step data st.tree st.pos hist with
      | cap =>
        rw [hs] at hd hg
        obtain ⟨st', e⟩ := hd
        rw [e]
        exact Or.inl ⟨_, rfl, by rw [hg]⟩
      | last hist' =>
        rw [hs] at hd hg
        obtain ⟨st', e, S⟩ := hd
        obtain ⟨q1, q2, q3, _⟩ := S.queue i hu
        rw [e]
        exact Or.inr ⟨_, hist', rfl, ⟨q1, S.win, q2, q3, fun h => (by cases h), fun _ => hg⟩, Or.inl rfl⟩
      | next t' p' hist' =>
        rw [hs] at hd hg
        obtain ⟨st', e, e1, e2, S⟩ := hd
        obtain ⟨q1, q2, q3, q4⟩ := S.queue i hu
        have tk' := (step_next tk hs).1
        have he' : st'.eos = false := S.eos.trans he
        rw [e]
        exact ih st' hist' ⟨q1, S.win, q2, q3, fun _ => ⟨by rw [e1, e2]; exact hg, e1 ▸ tk'⟩,
          fun h => by rw [he'] at h; cases h⟩ he' (by omega)
    · rw [if_neg hu]
      exact Or.inr ⟨st, hist, rfl, i, Or.inr (by omega)⟩

theorem fill_spec {data st hist taken res} (i : Inv data st hist taken res) :
    (∃ st1, fill st = (st1, true) ∧ res.2 = .capacity) ∨
    (∃ st1 hist1, fill st = (st1, false) ∧ Inv data st1 hist1 taken res ∧ (st1.eos = true ∨ maxFill ≤ st1.unread)) := by
  unfold fill
  cases he : st.eos with
  | true => exact Or.inr ⟨st, hist, rfl, i, Or.inl he⟩
  | false => exact fillLoop_spec data res taken (maxFill + 1) st hist i he (by omega)

theorem seg_length (buf : Array UInt8) (start k : Nat) : (seg buf start k).length = k := by simp [seg]

theorem seg_append (buf : Array UInt8) (r a b : Nat) : seg buf r a ++ seg buf ((r + a) % N) b = seg buf r (a + b) := by
  unfold seg
  rw [List.range_add, List.map_append, List.map_map]
  congr 1
  apply List.map_congr_left
  intro i _
  show buf.getD (((r + a) % N + i) % N) 0 = buf.getD ((r + (a + i)) % N) 0
  congr 1
  unfold N; omega

theorem seg_eq {data st hist taken res} (i : Inv data st hist taken res) (k : Nat) (hk : k ≤ st.unread) :
    seg st.buf st.r k = (hist.reverse.drop taken).take k := by
  have hc := i.cnt
  have hw := i.win.hw
  have hr := i.hr
  have hu := unread_eq st
  apply List.ext_getElem
  · rw [seg_length, List.length_take, List.length_drop, List.length_reverse]; omega
  · intro j h1 h2
    rw [seg_length] at h1
    simp only [seg, List.getElem_map, List.getElem_range]
    have hd : st.unread - 1 - j < N := by have := unread_lt st; omega
    have hb := i.win.win _ hd
    have e1 : (st.w + N - 1 - (st.unread - 1 - j)) % N = (st.r + j) % N := by
      have hj : j < st.unread := by omega
      generalize st.unread = u at *
      generalize st.w = w at *
      generalize st.r = r at *
      unfold N at *; omega
    rw [e1] at hb
    show vwB st.buf ((st.r + j) % N) = _
    rw [hb]
    rw [List.getElem_take, List.getElem_drop, List.getElem_reverse]
    unfold histAt
    rw [List.getD_eq_getElem?_getD, List.getElem?_eq_getElem (by omega)]
    simp only [Option.getD_some]
    congr 1
    omega

theorem Inv.advance {data st hist taken res} (i : Inv data st hist taken res) (m : Nat) (hm : m ≤ st.unread) :
    Inv data { st with r := (st.r + m) % N } hist (taken + m) res := by
  refine ⟨i.hdata, i.win, Nat.mod_lt _ (by decide), ?_, i.opn, i.closed⟩
  have := i.cnt
  show taken + m + (st.w + N - (st.r + m) % N) % N = hist.length
  rw [dist_read i.win.hw i.hr hm, ← unread_eq]; omega

/-- `CopyAvailableData`: one segment from the read index, across the wrap-around -/
theorem copyAvailable_eq (st : St) (size : Nat) (hw : st.w < N) (hr : st.r < N) :
    copyAvailable st size = (seg st.buf st.r (min size st.unread), { st with r := (st.r + min size st.unread) % N }) := by
  have hu := unread_eq st
  have hW : st.w < W64 := Nat.lt_trans hw (by decide)
  -- the final test is immaterial: an empty second copy changes nothing
  have tail : ∀ (b1 : List UInt8) (r1 n2 : Nat),
      (if n2 > 0 then (b1 ++ seg st.buf r1 n2, { st with r := r1 + n2 }) else (b1, { st with r := r1 })) =
        (b1 ++ seg st.buf r1 n2, ({ st with r := r1 + n2 } : St)) := by
    intro b1 r1 n2
    cases n2 with
    | zero => simp [seg]
    | succ n => rw [if_pos (by omega)]
  unfold copyAvailable
  by_cases e : st.w = st.r
  · rw [if_pos e, show st.unread = 0 by rw [hu, e]; unfold N at *; omega, Nat.min_zero, Nat.add_zero, Nat.mod_eq_of_lt hr]; rfl
  · rw [if_neg e]
    by_cases lt : st.w < st.r
    · simp only [lt, if_true, tail]
      rw [seg_append]
      have hun : st.unread = st.w + N - st.r := by rw [hu]; unfold N at *; omega
      by_cases c : size < N - st.r
      · -- everything asked for lies before the wrap-around
        rw [show min (N - st.r) size = size by omega, Nat.sub_self, Nat.min_zero, show min size st.unread = size by omega]
        rfl
      · have r1 : (st.r + (N - st.r)) % N = 0 := by unfold N at *; omega
        rw [show min (N - st.r) size = N - st.r by omega, r1, u64_sub (Nat.zero_le _) hW,
          show min size st.unread = (N - st.r) + min st.w (size - (N - st.r)) by omega]
        congr 2; unfold N at *; omega
    · simp only [lt, if_false, tail]
      rw [List.nil_append, u64_sub (Nat.le_of_not_lt lt) hW,
        show st.unread = st.w - st.r by rw [hu]; unfold N at *; omega, Nat.min_comm]
      congr 2; unfold N at *; omega

theorem take_drop_prefix {α : Type} {p l : List α} (h : p <+: l) (a m : Nat) (ham : a + m ≤ p.length) :
    (p.drop a).take m = (l.drop a).take m := by
  obtain ⟨s, rfl⟩ := h
  rw [List.drop_append_of_le_length (by omega), List.take_append_of_le_length (by rw [List.length_drop]; omega)]

theorem Inv.pending {data st hist taken res} (i : Inv data st hist taken res) (m : Nat) (hm : m ≤ st.unread) :
    (hist.reverse.drop taken).take m = (res.1.reverse.drop taken).take m := by
  have hp : hist.reverse <+: res.1.reverse := List.reverse_prefix.mpr i.suffix
  exact take_drop_prefix hp taken m (by rw [List.length_reverse]; have := i.cnt; omega)

structure Delivers (data : Array UInt8) (res : List UInt8 × Status) (taken : Nat) (bytes : List UInt8) (st' : St) : Prop where
  bytes_eq : bytes = (res.1.reverse.drop taken).take bytes.length
  inv : ∃ hist', Inv data st' hist' (taken + bytes.length) res

theorem Delivers.nil {data st hist taken res} (i : Inv data st hist taken res) : Delivers data res taken [] st :=
  ⟨rfl, hist, i⟩

theorem Delivers.trans {data res taken b1 b2 st1 st2} (h1 : Delivers data res taken b1 st1)
    (h2 : Delivers data res (taken + b1.length) b2 st2) : Delivers data res taken (b1 ++ b2) st2 := by
  obtain ⟨hist2, i2⟩ := h2.inv
  refine ⟨?_, hist2, by rw [List.length_append, ← Nat.add_assoc]; exact i2⟩
  rw [List.length_append, List.take_add, ← h1.bytes_eq, List.drop_drop, ← h2.bytes_eq]

theorem Delivers.length_le {data res taken bytes st'} (d : Delivers data res taken bytes st') :
    bytes.length ≤ res.1.length - taken := by
  have := congrArg List.length d.bytes_eq
  rw [List.length_take, List.length_drop, List.length_reverse] at this
  omega

theorem Delivers.eq_take {data res taken bytes st'} (d : Delivers data res taken bytes st') {size : Nat}
    (h : bytes.length = min size (res.1.length - taken)) : bytes = (res.1.reverse.drop taken).take size := by
  rw [d.bytes_eq, h]
  by_cases hs : size ≤ res.1.length - taken
  · rw [Nat.min_eq_left hs]
  · rw [Nat.min_eq_right (by omega), List.take_of_length_le (by simp), List.take_of_length_le (by simp; omega)]

/-- the one way bytes leave the queue -/
theorem Inv.deliver {data st hist taken res} (i : Inv data st hist taken res) (m : Nat) (hm : m ≤ st.unread) :
    Delivers data res taken (seg st.buf st.r m) { st with r := (st.r + m) % N } where
  bytes_eq := by rw [seg_length]; exact (seg_eq i m hm).trans (i.pending m hm)
  inv := ⟨hist, by rw [seg_length]; exact i.advance m hm⟩

theorem round_spec {data st hist taken res} (i : Inv data st hist taken res) (size : Nat) :
    (∃ st1, fill st = (st1, true) ∧ res.2 = .capacity) ∨
    (∃ st1, fill st = (st1, false) ∧ Delivers data res taken (copyAvailable st1 size).1 (copyAvailable st1 size).2 ∧
      (copyAvailable st1 size).1.length = min size st1.unread ∧ (copyAvailable st1 size).2.eos = st1.eos ∧
      (copyAvailable st1 size).2.unread = st1.unread - min size st1.unread ∧ (st1.eos = true ∨ maxFill ≤ st1.unread)) := by
  rcases fill_spec i with h | ⟨st1, hist1, f, i1, f3⟩
  · exact Or.inl h
  · have hm : min size st1.unread ≤ st1.unread := Nat.min_le_right _ _
    refine Or.inr ⟨st1, f, ?_⟩
    rw [copyAvailable_eq st1 size i1.win.hw i1.hr]
    exact ⟨i1.deliver _ hm, seg_length _ _ _, rfl, dist_read i1.win.hw i1.hr hm, f3⟩

theorem getDataLoop_spec (data : Array UInt8) (res : List UInt8 × Status) :
    ∀ fuel (st : St) (size : Nat) (acc : List UInt8) (hist : List UInt8) (taken : Nat), Inv data st hist taken res →
      (st.eos = true ∨ size ≤ fuel) → (st.eos = true → size = 0 ∨ st.unread = 0) →
      ((∃ e, getDataLoop fuel st size acc = .error e) ∧ res.2 = .capacity) ∨
      (∃ st' bytes, getDataLoop fuel st size acc = .ok (acc ++ bytes, st') ∧ Delivers data res taken bytes st' ∧
          bytes.length = min size (res.1.length - taken)) := by
  intro fuel
  induction fuel with
  | zero =>
    intro st size acc hist taken i hf hp
    refine Or.inr ⟨st, [], by simp [getDataLoop], Delivers.nil i, ?_⟩
    rcases hf with he | hs
    · rcases hp he with h0 | h0
      · simp [h0]
      · have := i.done he h0; simp; omega
    · simp; omega
  | succ f ih =>
    intro st size acc hist taken i hf hp
    simp only [getDataLoop]
    by_cases hc : size > 0 ∧ ¬ (st.eos = true)
    · rw [if_pos hc]
      have he : st.eos = false := Bool.eq_false_iff.mpr hc.2
      rcases round_spec i size with ⟨st1, hfill, hcap⟩ | ⟨st1, hfill, d, c2, c4, c5, f3⟩
      · exact Or.inl ⟨⟨.refused, by rw [hfill]⟩, hcap⟩
      · rw [hfill]
        simp only []
        obtain ⟨hist2, i2⟩ := d.inv
        have hms := maxFill_safe
        rcases ih _ (size - (copyAvailable st1 size).1.length) (acc ++ (copyAvailable st1 size).1) hist2 _ i2
            (by rw [c4, c2]; rcases f3 with e | e
                · exact Or.inl e
                · right; rcases hf with h | h
                  · rw [he] at h; cases h
                  · omega)
            (by intro _; rw [c2, c5]; omega) with h | ⟨st', bytes, a, d', hl⟩
        · exact Or.inl h
        · have := d.length_le
          exact Or.inr ⟨st', _, by rw [a, List.append_assoc], d.trans d', by rw [List.length_append, hl]; omega⟩
    · rw [if_neg hc]
      refine Or.inr ⟨st, [], by simp, Delivers.nil i, ?_⟩
      by_cases h0 : size = 0
      · simp [h0]
      · have he : st.eos = true := by
          cases h : st.eos with
          | true => rfl
          | false => exact absurd ⟨by omega, by simp [h]⟩ hc
        rcases hp he with h1 | h1
        · exact absurd h1 h0
        · have := i.done he h1; simp; omega

/-- `GetData(size)` delivers exactly the next `min size remaining` bytes of the reference output, or fails, and only
    when the reference decoder ends at capacity -/
theorem getData_spec (data : Array UInt8) (res : List UInt8 × Status) (st : St) (size : Nat) (hist : List UInt8)
    (taken : Nat) (i : Inv data st hist taken res) :
    ((∃ e, getData st size = .error e) ∧ res.2 = .capacity) ∨
    (∃ st', getData st size = .ok ((res.1.reverse.drop taken).take size, st') ∧
        Delivers data res taken ((res.1.reverse.drop taken).take size) st') := by
  unfold getData
  rcases round_spec i size with ⟨st1, hfill, hcap⟩ | ⟨st1, hfill, d, c2, c4, c5, f3⟩
  · exact Or.inl ⟨⟨.refused, by rw [hfill]⟩, hcap⟩
  · rw [hfill]
    simp only []
    obtain ⟨hist2, i2⟩ := d.inv
    rcases getDataLoop_spec data res _ _ (size - (copyAvailable st1 size).1.length) (copyAvailable st1 size).1 hist2 _ i2
        (Or.inr (Nat.le_refl _)) (by intro _; rw [c2, c5]; omega) with h | ⟨st', bytes, a, d', hl⟩
    · exact Or.inl h
    · have := d.length_le
      have e := (d.trans d').eq_take (size := size) (by rw [List.length_append, hl]; omega)
      exact Or.inr ⟨st', by rw [a, e], by rw [← e]; exact d.trans d'⟩

/-- `GetInternalBuffer` hands out the next undelivered bytes of the reference output, and nothing exactly when
    everything has been delivered -/
theorem getInternal_spec (data : Array UInt8) (res : List UInt8 × Status) (st : St) (hist : List UInt8)
    (taken : Nat) (i : Inv data st hist taken res) :
    ((∃ e, getInternal st = .error e) ∧ res.2 = .capacity) ∨
    (∃ st' hist' bytes, getInternal st = .ok (bytes, st') ∧ bytes = (res.1.reverse.drop taken).take bytes.length ∧
        Inv data st' hist' (taken + bytes.length) res ∧ (bytes = [] → taken = res.1.length)) := by
  unfold getInternal
  rcases fill_spec i with ⟨st1, hfill, hcap⟩ | ⟨st1, hist1, hfill, i1, f3⟩
  · exact Or.inl ⟨⟨.refused, by rw [hfill]⟩, hcap⟩
  · rw [hfill]
    simp only []
    have hw := i1.win.hw
    have hr := i1.hr
    have hu := unread_eq st1
    have hms := maxFill_safe
    have hsz : (if st1.w < st1.r then N - st1.r else st1.w - st1.r) ≤ st1.unread ∧
        ((if st1.w < st1.r then N - st1.r else st1.w - st1.r) = 0 → st1.unread = 0) := by
      rw [hu]; split <;> (unfold N at *; omega)
    have d := i1.deliver _ hsz.1
    obtain ⟨hist', i'⟩ := d.inv
    refine Or.inr ⟨_, hist', _, rfl, d.bytes_eq, i', fun hnil => ?_⟩
    have h0 : st1.unread = 0 := hsz.2 (by have := congrArg List.length hnil; rwa [seg_length] at this)
    exact i1.done (f3.resolve_right (by omega)) h0

theorem call_spec (data : Array UInt8) (res : List UInt8 × Status) (st : St) (c : Call) (hist : List UInt8)
    (taken : Nat) (i : Inv data st hist taken res) :
    ((∃ e, call st c = .error e) ∧ res.2 = .capacity) ∨
    (∃ st' bytes, call st c = .ok (bytes, st') ∧ Delivers data res taken bytes st') := by
  cases c with
  | data k =>
    rcases getData_spec data res st k hist taken i with h | ⟨st', a, d⟩
    · exact Or.inl h
    · exact Or.inr ⟨st', _, a, d⟩
  | internal =>
    rcases getInternal_spec data res st hist taken i with h | ⟨st', hist', bytes, a, b, c, _⟩
    · exact Or.inl h
    · exact Or.inr ⟨st', bytes, a, b, hist', c⟩

theorem drain_delivers (data : Array UInt8) (res : List UInt8 × Status) :
    ∀ (calls : List Call) (st : St) (hist : List UInt8) (taken : Nat), Inv data st hist taken res →
      (∃ st', Delivers data res taken (drain st calls).1.flatten st') ∧ ((drain st calls).2 = true → res.2 = .capacity) := by
  intro calls
  induction calls with
  | nil => intro st hist taken i; exact ⟨⟨st, Delivers.nil i⟩, by simp [drain]⟩
  | cons c cs ih =>
    intro st hist taken i
    rcases call_spec data res st c hist taken i with ⟨⟨e, he⟩, hcap⟩ | ⟨st', bytes, a, d⟩
    · simp only [drain, he]
      exact ⟨⟨st, Delivers.nil i⟩, fun _ => hcap⟩
    · simp only [drain, a]
      obtain ⟨hist', i'⟩ := d.inv
      obtain ⟨⟨st2, d2⟩, h2⟩ := ih st' hist' _ i'
      exact ⟨⟨st2, d.trans d2⟩, h2⟩

/-- every drain schedule delivers a prefix of the reference output, in order, without gaps -/
theorem drain_spec (data : Array UInt8) (res : List UInt8 × Status) (calls : List Call) (st : St) (hist : List UInt8)
    (taken : Nat) (i : Inv data st hist taken res) :
    (drain st calls).1.flatten = (res.1.reverse.drop taken).take (drain st calls).1.flatten.length ∧
    ((drain st calls).2 = true → res.2 = .capacity) := by
  obtain ⟨⟨_, d⟩, h⟩ := drain_delivers data res calls st hist taken i
  exact ⟨d.bytes_eq, h⟩

end Op2.Lzh
