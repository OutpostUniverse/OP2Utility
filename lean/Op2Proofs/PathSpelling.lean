import Op2Model.Vol
import Op2Model.Clm
import Op2Proofs.SortLemmas
import Op2Proofs.Path.Split
import Op2Proofs.Vol.Create
/-!
# The archive writers look at an input path only through `Path.getFilename`

`Vol.create out files` and `Clm.create files` are rewritten as functions of the *logical* inputs
`(Path.getFilename path, content)`; the only place where the spelling of an input path is looked at is the
`PathsAreEqual(out, input)` test of `VolFile::WriteVolume`, which is kept as an explicit Boolean gate.
-/
namespace Op2.Path

/-- the spellings the property speaks of: a plain name `n` (non-empty, no '/'), given bare or behind any directory part
    `dir/` with `dir ≠ "/"` — `a/x.txt`, `./x.txt`, `./d/e/x.txt`, `/abs//x.txt` … — has the same file name -/
theorem getFilename_spelled (dir n : Bytes) (hn : Plain n) (hd : dir ≠ [sep]) :
    getFilename (dir ++ [sep] ++ n) = getFilename n := by
  rw [List.append_assoc, List.singleton_append]
  exact getFilename_dir dir n hn hd

end Op2.Path

namespace Op2.Vol
open Op2 Op2.Str

/-- what the writer is meant to depend on: final path component and content -/
def logical (f : InFile) : Bytes × Content := (Path.getFilename f.path, f.content)

def outClash (out : Bytes) (files : List InFile) : Bool := files.any (fun f => Path.pathsAreEqual out f.path)

def prepLoopL : List (Bytes × Content) → Nat → Except Err (List Entry × Nat)
  | [], stl => .ok ([], stl)
  | f :: fs, stl =>
    if f.2.len > int32Max then .error .refused
    else if stl + f.1.length + 1 > uint32Max then .error .refused
    else match prepLoopL fs (u32 (stl + u32 f.1.length + 1)) with
      | .ok (es, stl') => .ok ({ nameOff := stl, dataOff := 0, size := f.2.len, comp := uncompressed } :: es, stl')
      | .error e => .error e

def writeFilesL : List (Bytes × Content) → List Entry → Bytes
  | f :: fs, e :: es => (sec tagVBLK e.size ++ copyAll f.2 ++ zeros ((4 - e.size % 4) % 4)) ++ writeFilesL fs es
  | _, _ => []

/-- everything `CreateArchive` computes from the logical inputs alone: every refusal except the two that concern the
    output path, and the archive bytes -/
def createCore (l : List (Bytes × Content)) : Except Err Bytes :=
  let sorted := Str.sortCI Prod.fst l
  let names := sorted.map Prod.fst
  if Str.hasAdjacentDup names then .error .refused else
  match prepLoopL sorted 0 with
  | .error e => .error e
  | .ok (es, stl) =>
    if sorted.length * entrySize > uint32Max then .error .refused else
    let itl := u32 (u32 sorted.length * entrySize)
    let paddedS := mask32 (u32 (stl + namePad))
    let paddedI := mask32 (u32 (itl + indexPad))
    match assignOffsets (u32 (paddedS + paddedI + firstBlockExtra)) es with
    | .error e => .error e
    | .ok es =>
      .ok (writeHeader { files := [], names := names, stl := stl, itl := itl, paddedS := paddedS, paddedI := paddedI, entries := es }
            ++ writeFilesL sorted es)

theorem prepLoop_logical : ∀ (l : List InFile) (stl : Nat), prepLoop l stl = prepLoopL (l.map logical) stl
  | [], _ => rfl
  | f :: fs, stl => by
    simp only [prepLoop, List.map_cons, prepLoopL]
    rw [prepLoop_logical fs]
    rfl

theorem writeFiles_logical : ∀ (l : List InFile) (es : List Entry), writeFiles l es = writeFilesL (l.map logical) es
  | [], _ => by simp [writeFiles, writeFilesL]
  | _ :: _, [] => by simp [writeFiles, writeFilesL]
  | f :: fs, e :: es => by
    simp only [writeFiles, List.map_cons, writeFilesL, writeBlock]
    rw [writeFiles_logical fs es]
    rfl

set_option smartUnfolding false in
theorem createCore_eq (l : List (Bytes × Content)) : createCore l =
    if hasAdjacentDup ((sortCI Prod.fst l).map Prod.fst) then .error .refused else
    prepLoopL (sortCI Prod.fst l) 0 >>= fun r =>
    if (sortCI Prod.fst l).length * entrySize > uint32Max then .error .refused else
    assignOffsets (u32 (mask32 (u32 (r.2 + namePad))
      + mask32 (u32 (u32 (u32 (sortCI Prod.fst l).length * entrySize) + indexPad)) + firstBlockExtra)) r.1 >>= fun es =>
    .ok (writeHeader { files := [], names := (sortCI Prod.fst l).map Prod.fst, stl := r.2,
                       itl := u32 (u32 (sortCI Prod.fst l).length * entrySize), paddedS := mask32 (u32 (r.2 + namePad)),
                       paddedI := mask32 (u32 (u32 (u32 (sortCI Prod.fst l).length * entrySize) + indexPad)), entries := es }
      ++ writeFilesL (sortCI Prod.fst l) es) := rfl

/-- `CreateArchive` is the core function of the logical inputs `(getFilename path, content)`, followed by the two
    output-path refusals (output names an input; output path empty).  No other use is made of the paths. -/
theorem create_factors (out : Bytes) (files : List InFile) :
    create out files =
      match createCore (files.map logical) with
      | .error e => .error e
      | .ok b => if outClash out files then .error .refused else if out.isEmpty then .error .refused else .ok b := by
  have hs : (sortCI nameOf files).map logical = sortCI Prod.fst (files.map logical) := sortCI_map logical Prod.fst files
  have hany : (sortCI nameOf files).any (fun f => Path.pathsAreEqual out f.path) = outClash out files :=
    (sortCI_perm nameOf files).any_eq
  have hnames : (sortCI nameOf files).map nameOf = (sortCI Prod.fst (files.map logical)).map Prod.fst := by
    rw [← hs, List.map_map]; rfl
  have hlen : (sortCI nameOf files).length = (sortCI Prod.fst (files.map logical)).length := by
    rw [← hs, List.length_map]
  suffices h : create out files = createCore (files.map logical) >>= fun b =>
      if outClash out files then .error .refused else if out.isEmpty then .error .refused else .ok b by
    rw [h]; cases createCore (files.map logical) <;> rfl
  rw [create_eq, plan_eq, createCore_eq, hany, hnames, hlen, prepLoop_logical, hs]
  simp only [Except.refuse_bind, bind_assoc, Except.ok_bind, emit, writeFiles_logical, hs]
  rfl

end Op2.Vol

namespace Op2.Clm
open Op2 Op2.Str Op2.Wave

def logical (f : Bytes × Content) : Bytes × Content := (Path.getFilename f.1, f.2)

/-- `ClmFile::CreateArchive` written over the logical inputs `(file name, content)`: the member name is the file name
    without its extension, the order is the case-insensitive order of the file names -/
def createCore (l : List (Bytes × Content)) : Res Archive :=
  let sorted := Str.sortCI Prod.fst l
  match intakeAll (sorted.map (·.2)) with
  | .hang => .hang
  | .err => .err
  | .ok infos =>
    if !allSameFmt infos then .err else
    let names := sorted.map (fun f => Path.changeFileExtension f.1 [])
    if names.any (fun n => decide (n.length > nameMax)) then .err else
    if Str.hasAdjacentDup names then .err else
    let n := names.length
    let fmt := match infos with | [] => defaultFmt | i :: _ => i.fmt
    let hdr := version ++ fmt ++ unknown ++ encU32 n
    match prepareIndex (headerSize + n * entrySize) (names.zip (infos.map (·.dataLen))) with
    | none => .err
    | some idx =>
      match slices ((sorted.map (·.2)).zip infos) with
      | none => .err
      | some ds => .ok ⟨hdr ++ idx, ds⟩

/-- `CreateArchive` is a function of the logical inputs `(getFilename path, content)`; the CLM writer takes no output
    path, so nothing else of the spelling is ever looked at -/
theorem create_factors (files : List (Bytes × Content)) : create files = createCore (files.map logical) := by
  have hs : (sortCI (fun f : Bytes × Content => Path.getFilename f.1) files).map logical
      = sortCI Prod.fst (files.map logical) := sortCI_map logical Prod.fst files
  have hc : (sortCI (fun f : Bytes × Content => Path.getFilename f.1) files).map (·.2)
      = (sortCI Prod.fst (files.map logical)).map (·.2) := by
    rw [← hs, List.map_map]; rfl
  have hn : (sortCI (fun f : Bytes × Content => Path.getFilename f.1) files).map (fun f => nameOf f.1)
      = (sortCI Prod.fst (files.map logical)).map (fun f => Path.changeFileExtension f.1 []) := by
    rw [← hs, List.map_map]; rfl
  unfold create createCore
  simp only []
  rw [hc, hn]
  rfl

end Op2.Clm
