import Op2Model.Clm
import Op2Proofs.StrOrder
/-!
# File names `stem[.ext]` over the property's alphabet; appending an extension keeps the order of two stems
-/
namespace Op2.Clm
open Op2 Op2.Path

inductive Suffix where
  | none
  | withExt (ext : Bytes)

def Suffix.bytes : Suffix → Bytes
  | .none => []
  | .withExt ext => Path.dot :: ext

def Suffix.Ok : Suffix → Prop
  | .none => True
  | .withExt ext => ∀ x ∈ ext, x ≠ Path.dot ∧ x ≠ sep

instance : (sfx : Suffix) → Decidable sfx.Ok
  | .none => inferInstanceAs (Decidable True)
  | .withExt ext => inferInstanceAs (Decidable (∀ x ∈ ext, x ≠ Path.dot ∧ x ≠ sep))

/-- stem characters: not '.', not '/', and folded value above '.' (letters, digits, underscore all qualify) -/
def StemOk (stem : Bytes) : Prop := stem ≠ [] ∧ ∀ x ∈ stem, 46 < x.toNat ∧ x.toNat < 255 ∧ x ≠ sep
instance (stem : Bytes) : Decidable (StemOk stem) := by unfold StemOk; infer_instance

theorem StemOk.above {stem : Bytes} (h : StemOk stem) : ∀ x ∈ stem, 46 < x.toNat ∧ x.toNat < 255 :=
  fun x hx => ⟨(h.2 x hx).1, (h.2 x hx).2.1⟩

theorem ne_dot_of_above {x : UInt8} (h : 46 < x.toNat) : x ≠ dot := by
  intro e
  rw [e] at h
  exact absurd h (by decide)

theorem StemOk.ne_dot {stem : Bytes} (h : StemOk stem) : ∀ x ∈ stem, x ≠ dot :=
  fun x hx => ne_dot_of_above (h.above x hx).1

theorem ltCI_stems : ∀ (a b : Bytes) (sa sb : Suffix), (∀ x ∈ a, 46 < x.toNat ∧ x.toNat < 255) → (∀ x ∈ b, 46 < x.toNat ∧ x.toNat < 255) →
    Str.ltCI a b = true → Str.ltCI (a ++ sa.bytes) (b ++ sb.bytes) = true
  | [], [], _, _, _, _, h => nomatch h
  | _ :: _, [], _, _, _, _, h => nomatch h
  | [], y :: ys, sa, sb, _, hb, _ => by
    have hy := hb y (by simp)
    have hl : Str.lowerI dot < Str.lowerI y := by
      have := Str.lowerI_cases y
      show (46 : Int) < _
      omega
    cases sa with
    | none => rfl
    | withExt ext => exact (Str.ltF_cons ..).mpr (.inl hl)
  | x :: xs, y :: ys, sa, sb, ha, hb, h => by
    unfold Str.ltCI at h ⊢
    rw [List.cons_append, List.cons_append, Str.ltF_cons]
    rw [Str.ltF_cons] at h
    exact h.imp id fun ⟨e, h⟩ =>
      ⟨e, ltCI_stems xs ys sa sb (fun z hz => ha z (by simp [hz])) (fun z hz => hb z (by simp [hz])) h⟩

end Op2.Clm
