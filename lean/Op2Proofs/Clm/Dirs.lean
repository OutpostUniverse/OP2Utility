import Op2Proofs.Path.Ext
import Op2Proofs.Clm.Names
/-!
# File name and member name of `stem[.ext]`, `dir/stem[.ext]` and `"//stem[.ext]"`

By `Path.getFilename_dir`, `path::filename()` of `dir ++ "/" ++ n` is `n` for every byte string `dir` and every non-empty
separator-free `n`, **except** `dir = "/"`: `"//n"` is a root name (one component whose text is the whole string), so its
file name is `"//n"` itself.  Either way the file name is `w ++ sfx` and the stripped name is `w` for a `w` whose bytes are
all above '.' (`NameShape`), which is all the order argument needs (`compat_of_shape`).
-/
namespace Op2.Clm
open Op2 Op2.Path

theorem nameOf_dir (B n : Bytes) (hn : Plain n) (hB : B ≠ [sep]) : nameOf (B ++ sep :: n) = nameOf n := by
  unfold nameOf
  rw [getFilename_dir B n hn hB]

theorem bare_plain (stem : Bytes) (sfx : Suffix) (hs : StemOk stem) (hx : sfx.Ok) : Plain (stem ++ sfx.bytes) := by
  refine ⟨fun e => hs.1 (List.append_eq_nil_iff.mp e).1, ?_⟩
  intro hmem
  rcases List.mem_append.mp hmem with h | h
  · exact (hs.2 sep h).2.2 rfl
  · cases sfx with
    | none => simp [Suffix.bytes] at h
    | withExt ext =>
      simp only [Suffix.bytes, List.mem_cons] at h
      rcases h with h | h
      · revert h; decide
      · exact (hx sep h).2 rfl

theorem dir_assoc (dir stem : Bytes) (sfx : Suffix) :
    dir ++ [sep] ++ stem ++ sfx.bytes = dir ++ sep :: (stem ++ sfx.bytes) := by simp

theorem extPos_sfx (w : Bytes) (sfx : Suffix) (hw : w ≠ []) (hnd : ∀ x ∈ w, x ≠ dot) (hx : sfx.Ok) :
    extPos (w ++ sfx.bytes) = match sfx with | .none => none | .withExt _ => some w.length := by
  cases sfx with
  | none =>
    obtain ⟨c0, r0, rfl⟩ := List.exists_cons_of_ne_nil hw
    have hc0 : c0 ≠ dot := hnd c0 (by simp)
    unfold extPos
    rw [if_neg (by simp), if_neg (by simp [hc0])]
    simp only [Suffix.bytes, List.append_nil]
    rw [List.findIdx?_eq_none_iff.mpr]
    intro y hy
    simp only [decide_eq_false_iff_not]
    exact hnd y (List.mem_reverse.mp hy)
  | withExt ext =>
    exact extPos_stem_dot_body w ext (fun h => (hx dot h).1 rfl) (.inr ⟨hw, fun e => hnd dot (List.mem_of_head? e) rfl⟩)

theorem single_names (w : Bytes) (sfx : Suffix) (k : Kind) (hw : w ≠ []) (hnd : ∀ x ∈ w, x ≠ dot) (hx : sfx.Ok)
    (hsplit : split (w ++ sfx.bytes) = [({ kind := k, pos := 0, text := w ++ sfx.bytes } : Cmpt)]) :
    getFilename (w ++ sfx.bytes) = w ++ sfx.bytes ∧ nameOf (w ++ sfx.bytes) = w := by
  have hfn : getFilename (w ++ sfx.bytes) = w ++ sfx.bytes := by
    simp [getFilename, filename, hsplit]
  refine ⟨hfn, ?_⟩
  unfold nameOf changeFileExtension
  rw [hfn]
  unfold replaceExtension extCmpt
  rw [hsplit]
  simp only
  rw [extPos_sfx w sfx hw hnd hx]
  cases sfx with
  | none => simp [Suffix.bytes]
  | withExt ext => simp [Suffix.bytes]

theorem bare_names (stem : Bytes) (sfx : Suffix) (hs : StemOk stem) (hx : sfx.Ok) :
    getFilename (stem ++ sfx.bytes) = stem ++ sfx.bytes ∧ nameOf (stem ++ sfx.bytes) = stem :=
  single_names stem sfx .file hs.1 hs.ne_dot hx (split_plain _ (bare_plain stem sfx hs hx))

theorem dir_names (dir stem : Bytes) (sfx : Suffix) (hs : StemOk stem) (hx : sfx.Ok) (hd : dir ≠ [sep]) :
    getFilename (dir ++ [sep] ++ stem ++ sfx.bytes) = stem ++ sfx.bytes ∧ nameOf (dir ++ [sep] ++ stem ++ sfx.bytes) = stem := by
  have hp := bare_plain stem sfx hs hx
  rw [dir_assoc, getFilename_dir _ _ hp hd, nameOf_dir _ _ hp hd]
  exact bare_names stem sfx hs hx

/-- '/' is 47, just above '.' -/
theorem rootName_above {stem : Bytes} (hs : StemOk stem) : ∀ x ∈ sep :: sep :: stem, 46 < x.toNat ∧ x.toNat < 255 := by
  intro x h
  simp only [List.mem_cons] at h
  rcases h with rfl | rfl | h
  · decide
  · decide
  · exact hs.above x h

theorem rootName_names (stem : Bytes) (sfx : Suffix) (hs : StemOk stem) (hx : sfx.Ok) :
    getFilename ([sep] ++ [sep] ++ stem ++ sfx.bytes) = sep :: sep :: stem ++ sfx.bytes ∧
    nameOf ([sep] ++ [sep] ++ stem ++ sfx.bytes) = sep :: sep :: stem := by
  have e : [sep] ++ [sep] ++ stem ++ sfx.bytes = (sep :: sep :: stem) ++ sfx.bytes := by simp
  rw [e]
  exact single_names (sep :: sep :: stem) sfx Kind.rootName (by simp) (fun x h => ne_dot_of_above (rootName_above hs x h).1)
    hx (split_rootName _ (bare_plain stem sfx hs hx))

def NameShape (p : Bytes) : Prop :=
  ∃ (w : Bytes) (sfx : Suffix), getFilename p = w ++ sfx.bytes ∧ nameOf p = w ∧ ∀ x ∈ w, 46 < x.toNat ∧ x.toNat < 255

theorem shape_bare (stem : Bytes) (sfx : Suffix) (hs : StemOk stem) (hx : sfx.Ok) : NameShape (stem ++ sfx.bytes) :=
  ⟨stem, sfx, (bare_names stem sfx hs hx).1, (bare_names stem sfx hs hx).2, hs.above⟩

/-- `dir = "/"` has the shape too, with `w = "//stem"` -/
theorem shape_dir (dir stem : Bytes) (sfx : Suffix) (hs : StemOk stem) (hx : sfx.Ok) :
    NameShape (dir ++ [sep] ++ stem ++ sfx.bytes) := by
  by_cases hd : dir = [sep]
  · subst hd
    exact ⟨sep :: sep :: stem, sfx, (rootName_names stem sfx hs hx).1, (rootName_names stem sfx hs hx).2, rootName_above hs⟩
  · exact ⟨stem, sfx, (dir_names dir stem sfx hs hx hd).1, (dir_names dir stem sfx hs hx hd).2, hs.above⟩

theorem compat_of_shape (s t : Bytes) (hs : NameShape s) (ht : NameShape t)
    (h : Str.ltCI (getFilename t) (getFilename s) = false) : Str.ltCI (nameOf t) (nameOf s) = false := by
  obtain ⟨ws, xs, e1, e2, hws⟩ := hs
  obtain ⟨wt, xt, f1, f2, hwt⟩ := ht
  rw [e1, f1] at h
  rw [e2, f2]
  cases hlt : Str.ltCI wt ws
  · rfl
  · have := ltCI_stems wt ws xt xs hwt hws hlt
    rw [this] at h; cases h

end Op2.Clm
