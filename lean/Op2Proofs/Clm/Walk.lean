import Op2Proofs.Clm.Content
/-!
# The chunk walk of `ClmFile::FindChunk`: termination with the 64-bit cursor, fuel independence; what intake returns

Every round but the last moves the cursor forward by at least 8, and a cursor of width `W ≥ len + 2^32 + 8` cannot wrap
before it has left the file: `len / 8 + 1` rounds suffice.
-/
namespace Op2.Wave
open Op2

theorem walk_succ (W : Nat) (c : Content) (tag : Bytes) (fuel pos : Nat) :
    walk W c tag (fuel + 1) pos =
      if pos + chunkHeaderSize ≤ c.len then
        if (c.read pos chunkHeaderSize).take 4 = tag then
          .at (decU32 ((c.read pos chunkHeaderSize).drop 4)) (pos + chunkHeaderSize)
        else if (pos + (decU32 ((c.read pos chunkHeaderSize).drop 4) + chunkHeaderSize)) % W < c.len then
          walk W c tag fuel ((pos + (decU32 ((c.read pos chunkHeaderSize).drop 4) + chunkHeaderSize)) % W)
        else .none
      else .none := by
  rfl

/-- with a cursor that cannot wrap (`len + 2^32 + 8 ≤ W`), `(len - pos) / 8 + 1` rounds always suffice -/
theorem walk_terminates (W : Nat) (c : Content) (tag : Bytes) (hW : c.len + W32 + 8 ≤ W) :
    ∀ fuel pos, (c.len - pos) / 8 + 1 ≤ fuel → walk W c tag fuel pos ≠ .fuelOut := by
  intro fuel
  induction fuel with
  | zero => intro pos h; omega
  | succ fuel ih =>
    intro pos h
    rw [walk_succ]
    split
    · rename_i hin
      split
      · simp
      · have hl : _ < W32 := Codec.decU32_lt ((c.read pos chunkHeaderSize).drop 4)
        generalize decU32 ((c.read pos chunkHeaderSize).drop 4) = L at hl ⊢
        have hmod : (pos + (L + chunkHeaderSize)) % W = pos + (L + chunkHeaderSize) := by
          apply Nat.mod_eq_of_lt
          unfold chunkHeaderSize at hin ⊢
          omega
        rw [hmod]
        split
        · rename_i hlt
          apply ih
          unfold chunkHeaderSize at hin hlt ⊢
          omega
        · simp
    · simp

theorem walk_fuel_mono (W : Nat) (c : Content) (tag : Bytes) :
    ∀ fuel pos k, walk W c tag fuel pos ≠ .fuelOut → walk W c tag (fuel + k) pos = walk W c tag fuel pos := by
  intro fuel
  induction fuel with
  | zero => intro pos k h; exact absurd rfl h
  | succ fuel ih =>
    intro pos k h
    have e : fuel + 1 + k = (fuel + k) + 1 := by omega
    rw [e, walk_succ, walk_succ]
    rw [walk_succ] at h
    split
    · split
      · rfl
      · split
        · rename_i h1 h2 h3
          rw [if_pos h1, if_neg h2, if_pos h3] at h
          exact ih _ k h
        · rfl
    · rfl

theorem walk_lib_terminates (c : Content) (tag : Bytes) (hlen : c.len < 2 ^ 63) :
    walk cursorW c tag (fuelFor c) riffHeaderSize ≠ .fuelOut := by
  apply walk_terminates
  · unfold cursorW W64 W32; omega
  · unfold fuelFor riffHeaderSize; omega

theorem find_terminates (c : Content) (tag : Bytes) (hlen : c.len < 2 ^ 63) : find c tag ≠ .fuelOut := by
  unfold find
  split
  · simp
  · exact walk_lib_terminates c tag hlen

theorem intake_ne_hang (c : Content) (hlen : c.len < 2 ^ 63) : intake c ≠ .hang := by
  have h1 := find_terminates c tagFmt hlen
  have h2 := find_terminates c tagData hlen
  unfold intake
  split
  · unfold intakeBody
    cases hf : find c tagFmt with
    | fuelOut => exact absurd hf h1
    | none => simp
    | «at» l p =>
      simp only
      cases hr : readFormat c p with
      | none => simp
      | some fmt =>
        simp only
        cases hd : find c tagData with
        | fuelOut => exact absurd hd h2
        | none => simp
        | «at» dl dp => simp
  · simp

theorem intakeAll_ne_hang : ∀ cs : List Content, (∀ c ∈ cs, c.len < 2 ^ 63) → intakeAll cs ≠ .hang
  | [], _ => by simp [intakeAll]
  | c :: cs, h => by
    have h1 := intake_ne_hang c (h c (by simp))
    have h2 := intakeAll_ne_hang cs (fun x hx => h x (by simp [hx]))
    unfold intakeAll
    split
    · rename_i e; exact absurd e h1
    · simp
    · split
      · rename_i e; exact absurd e h2
      · simp
      · simp

theorem intake_eq_ok {c : Content} {i : Info} :
    intake c = .ok i ↔ headerOk c = true ∧ ∃ l p, find c tagFmt = .at l p ∧ readFormat c p = some i.fmt ∧
      find c tagData = .at i.dataLen i.dataPos := by
  constructor
  · intro h
    unfold intake at h
    split at h
    · rename_i hh
      refine ⟨hh, ?_⟩
      unfold intakeBody at h
      split at h; · cases h
      · cases h
      rename_i l p hf
      split at h; · cases h
      rename_i fmt hr
      split at h; · cases h
      · cases h
      rename_i dl dp hd
      obtain rfl := Res.ok.inj h
      exact ⟨l, p, hf, hr, hd⟩
    · cases h
  · rintro ⟨hh, l, p, hf, hr, hd⟩
    simp only [intake, hh, if_true, intakeBody, hf, hr, hd]

theorem readFormat_length {c : Content} {p : Nat} {f : Bytes} (h : readFormat c p = some f) : f.length = 18 := by
  unfold readFormat at h
  split at h
  · rename_i hin
    obtain rfl := Option.some.inj h
    have := Content.read_length c p formatSize hin
    unfold formatSize at this
    simp only [List.length_append, List.length_take, formatSize, List.length_cons, List.length_nil, this]
    rfl
  · cases h

end Op2.Wave
