import Op2Proofs.Clm.Layout
/-!
# Reopening a created archive: the view, and every member's extent
-/
namespace Op2.Clm
open Op2 Op2.Wave
open Op2.Codec (take_of_drop length_of_drop flatMap_drop_sum)

theorem open_layout (fmt : Bytes) (items : List (Bytes × Nat)) (n : Nat) (D : Bytes) (hn : items.length = n)
    (hf : fmt.length = 18) (hfit : 60 + 16 * n + (items.map (·.2)).sum ≤ offsetLimit) (hcap : n * 16 ≤ allocCap) :
    Clm.open (layoutBytes fmt n (indexOf (60 + 16 * n) items) D) = .ok ⟨fmt, entriesOf (60 + 16 * n) items⟩ := by
  subst hn
  have hlen := layout_index_length (n := items.length) (s := 60 + 16 * items.length) (items := items) (D := D) hf
  have hn : items.length < W32 := by unfold allocCap at hcap; unfold W32; omega
  rw [open_eq_ok, layout_count hf hn, layout_fmt hf]
  unfold headerSize entrySize
  rw [layout_drop60 hf, parse_indexOf _ _ _ hfit]
  exact ⟨by omega, layout_take32, layout_unknown hf, by omega, by omega, rfl⟩

theorem extent_member (datas : List Content) (pre : Bytes) (i : Nat) (hi : i < datas.length) :
    extent (pre ++ datas.flatMap Content.toBytes) (pre.length + ((datas.take i).map Content.len).sum) datas[i].len
      = .ok datas[i].toBytes := by
  have hd : (pre ++ datas.flatMap Content.toBytes).drop (pre.length + ((datas.take i).map Content.len).sum)
      = datas[i].toBytes ++ ((datas.drop (i + 1)).flatMap Content.toBytes ++ []) := by
    rw [List.drop_length_add_append, ← flatMap_drop_sum Content.toBytes datas i hi [], List.append_nil]
    simp only [Content.toBytes_length]
  -- the position lies in the file even when the data is empty
  have hp : pre.length + ((datas.take i).map Content.len).sum ≤ (pre ++ datas.flatMap Content.toBytes).length := by
    rw [List.length_append, Content.flatMap_toBytes_length, ← List.take_append_drop i datas, List.map_append, List.sum_append,
      List.take_append_drop]
    omega
  have hl := length_of_drop hd
  rw [Content.toBytes_length] at hl
  exact extent_eq_ok.mpr ⟨by omega, (take_of_drop hd (Content.toBytes_length _)).symm⟩

theorem entriesOf_get? : ∀ (items : List (Bytes × Nat)) (start : Nat) (i : Nat) (it : Bytes × Nat), items[i]? = some it →
    (entriesOf start items)[i]? = some ⟨padName it.1, start + ((items.take i).map (·.2)).sum, it.2⟩
  | [], _, _, _, h => by simp at h
  | (n, l) :: items, start, 0, it, h => by
    simp only [List.getElem?_cons_zero, Option.some.injEq] at h; subst h; rfl
  | (n, l) :: items, start, i + 1, it, h => by
    simp only [entriesOf, List.getElem?_cons_succ, List.take_succ_cons, List.map_cons, List.sum_cons, ← Nat.add_assoc]
    exact entriesOf_get? items (start + l) i it (by simpa using h)

theorem entriesOf_get : ∀ (items : List (Bytes × Nat)) (start : Nat) (i : Nat) (hi : i < items.length),
    ∃ off, (entriesOf start items)[i]? = some ⟨padName items[i].1, off, items[i].2⟩ :=
  fun items start i hi => ⟨_, entriesOf_get? items start i items[i] (List.getElem?_eq_getElem hi)⟩

theorem entryName_padName (n : Bytes) (h0 : ∀ x ∈ n, x ≠ 0) (h8 : n.length ≤ 8) (off len : Nat) :
    entryName ⟨padName n, off, len⟩ = n := by
  unfold entryName
  rw [padName_ok n h0 h8]
  exact takeWhile_nul n _ h0

theorem Created.reopen {files : List (Bytes × Content)} {a : Archive} {infos : List Info}
    (h : Created files a infos) (hcap : files.length * 16 ≤ allocCap) :
    ∃ v, Clm.open a.toBytes = .ok v ∧ v.fmt = fmtOf infos ∧ v.count = files.length ∧
      ∀ (i : Nat) (m : (Bytes × Content) × Info), (membersOf files infos)[i]? = some m →
        ∃ off, v.entries[i]? = some ⟨padName (nameOf m.1.1), off, m.2.dataLen⟩ ∧
          extent a.toBytes off m.2.dataLen = .ok ((m.1.2.toBytes.drop m.2.dataPos).take m.2.dataLen) := by
  have hopen := open_layout (fmtOf infos) _ _ (a.datas.flatMap Content.toBytes) h.items_len h.fmt_len h.fits hcap
  refine ⟨_, by rw [h.toBytes]; exact hopen, rfl, by simp only [View.count, entriesOf_length, h.items_len], ?_⟩
  intro i m hm
  obtain ⟨hi, hmi⟩ := List.getElem?_eq_some_iff.mp hm
  have hi' : i < a.datas.length := by rw [h.datas, List.length_map]; exact hi
  have hd : a.datas[i] = m.1.2.slice m.2.dataPos m.2.dataLen := by simp only [h.datas, List.getElem_map, hmi]
  -- (the item is given: left to unification it would have to be read back out of `padName`, which is slow)
  refine ⟨_, entriesOf_get? (itemsOf files infos) (60 + 16 * files.length) i (nameOf m.1.1, m.2.dataLen)
    (by rw [List.getElem?_map, hm]; rfl), ?_⟩
  -- header and index are the `pre` of `extent_member`
  have := extent_member a.datas a.head i hi'
  rwa [h.head_length, List.map_take, h.datas_lens, ← List.map_take, hd, Content.slice_len,
    Content.slice_toBytes _ _ _ (h.inside m (List.mem_of_getElem? hm))] at this

end Op2.Clm
