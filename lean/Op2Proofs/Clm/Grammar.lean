import Op2Proofs.Clm.Create
/-!
# Intake of a grammar-built RIFF/WAVE file: the walk skips the other chunks and finds `fmt ` / `data`
-/
namespace Op2.Wave
open Op2
open Op2.Parser (decU32_encU32 encU32_length)

theorem Chunk.enc_length (k : Chunk) (h : k.tag.length = 4) : k.enc.length = 8 + k.body.length := by
  simp [Chunk.enc, encU32_length, h]; omega

theorem encChunks_cons (k : Chunk) (ks : List Chunk) : encChunks (k :: ks) = k.enc ++ encChunks ks := by
  simp [encChunks]

theorem encChunks_append (a b : List Chunk) : encChunks (a ++ b) = encChunks a ++ encChunks b := by
  simp [encChunks]

theorem encChunks_length_ge : ∀ ks : List Chunk, (∀ k ∈ ks, k.tag.length = 4) → 8 * ks.length ≤ (encChunks ks).length
  | [], _ => by simp [encChunks]
  | k :: ks, h => by
    have := encChunks_length_ge ks (fun x hx => h x (by simp [hx]))
    rw [encChunks_cons, List.length_append, Chunk.enc_length k (h k (by simp))]
    simp only [List.length_cons]; omega

theorem walk_at_chunk (W : Nat) (c : Content) (tag : Bytes) (k : Chunk) (pre rest : Bytes) (fuel : Nat)
    (hk4 : k.tag.length = 4) (hkl : k.body.length < W32) (hc : c.toBytes = pre ++ (k.enc ++ rest)) :
    walk W c tag (fuel + 1) pre.length =
      if k.tag = tag then .at k.body.length (pre.length + 8)
      else if (pre.length + (k.body.length + 8)) % W < c.len then walk W c tag fuel ((pre.length + (k.body.length + 8)) % W)
      else .none := by
  have hlen : c.len = pre.length + (8 + k.body.length + rest.length) := by
    rw [← Content.toBytes_length, hc, List.length_append, List.length_append, Chunk.enc_length k hk4]
  have hrd : c.read pre.length chunkHeaderSize = k.tag ++ encU32 k.body.length :=
    c.read_at pre _ (k.body ++ rest) 8 (by rw [hc]; simp only [Chunk.enc, List.append_assoc])
      (by rw [List.length_append, hk4, encU32_length])
  rw [walk_succ, if_pos (by unfold chunkHeaderSize; omega), hrd, List.take_left' hk4, List.drop_left' hk4,
    Codec.decU32_encU32' _ hkl]
  rfl

theorem walk_skips (W : Nat) (c : Content) (tag : Bytes) (target : Chunk) (rest : Bytes)
    (ht : target.tag = tag) (ht4 : tag.length = 4) (htl : target.body.length < W32) (hW : c.len + W32 + 8 ≤ W)
    (hsmall : c.len < W32) :
    ∀ (ks : List Chunk) (pre : Bytes) (fuel : Nat),
      c.toBytes = pre ++ (encChunks ks ++ (target.enc ++ rest)) →
      (∀ k ∈ ks, k.tag.length = 4 ∧ k.tag ≠ tag) → ks.length < fuel →
      walk W c tag fuel pre.length = .at target.body.length (pre.length + (encChunks ks).length + 8)
  | [], pre, fuel + 1, hc, _, _ => by
    rw [walk_at_chunk W c tag target pre rest fuel (ht ▸ ht4) htl hc, if_pos ht]; rfl
  | k :: ks, pre, fuel + 1, hc, hk, hf => by
    obtain ⟨hk4, hkt⟩ := hk k (by simp)
    have hke := Chunk.enc_length k hk4
    rw [encChunks_cons, List.append_assoc] at hc
    have hlen : c.len = pre.length + (k.enc.length + ((encChunks ks).length + (target.enc.length + rest.length))) := by
      rw [← Content.toBytes_length, hc]; simp only [List.length_append]
    have hte := Chunk.enc_length target (ht ▸ ht4)
    rw [walk_at_chunk W c tag k pre _ fuel hk4 (by omega) hc, if_neg hkt,
      Nat.mod_eq_of_lt (by omega), if_pos (by omega)]
    have hpre : (pre ++ k.enc).length = pre.length + (k.body.length + 8) := by rw [List.length_append, hke]; omega
    rw [← hpre, walk_skips W c tag target rest ht ht4 htl hW hsmall ks (pre ++ k.enc) fuel
      (by rw [hc, List.append_assoc]) (fun x hx => hk x (by simp [hx])) (by simpa using hf),
      encChunks_cons, List.length_append, List.length_append]
    congr 1; omega

theorem find_skips (c : Content) (tag hdr : Bytes) (ks : List Chunk) (target : Chunk) (rest : Bytes)
    (h12 : hdr.length = 12) (hc : c.toBytes = hdr ++ (encChunks ks ++ (target.enc ++ rest)))
    (ht : target.tag = tag) (ht4 : tag.length = 4) (hks : ∀ k ∈ ks, k.tag.length = 4 ∧ k.tag ≠ tag) (hsmall : c.len < W32) :
    find c tag = .at target.body.length (12 + (encChunks ks).length + 8) := by
  have hlen : c.len = 12 + ((encChunks ks).length + (8 + target.body.length + rest.length)) := by
    rw [← Content.toBytes_length, hc, List.length_append, List.length_append, List.length_append,
      Chunk.enc_length target (ht ▸ ht4), h12]
  have hge := encChunks_length_ge ks fun k hk => (hks k hk).1
  unfold W32 at hsmall
  unfold find
  rw [if_neg (by unfold riffHeaderSize chunkHeaderSize; omega), show riffHeaderSize = hdr.length from h12.symm, ← h12]
  exact walk_skips cursorW c tag target rest ht ht4 (by unfold W32; omega) (by unfold cursorW W64 W32; omega)
    (by unfold W32; omega) ks hdr (fuelFor c) hc hks (by unfold fuelFor; omega)

def Desc.dataPos (d : Desc) : Nat :=
  12 + (encChunks d.pre).length + d.fmtChunk.enc.length + (encChunks d.mid).length + 8

/-- what intake finds in a described file (`cbSize` cleared) -/
def infoOf (d : Desc) : Info := ⟨d.fmt16 ++ [0, 0], d.dataPos, d.data.length⟩

def riff12 (d : Desc) : Bytes := tagRIFF ++ encU32 (4 + d.body.length) ++ tagWAVE

theorem riff12_length (d : Desc) : (riff12 d).length = 12 := by simp [riff12, tagRIFF, tagWAVE, encU32_length]

theorem Desc.enc_eq (d : Desc) : d.enc = riff12 d ++ d.body := rfl

theorem Desc.fmtChunk_length (d : Desc) (h16 : d.fmt16.length = 16) :
    d.fmtChunk.enc.length = 8 + (16 + d.fmtExtra.length) := by
  rw [Chunk.enc_length _ (show tagFmt.length = 4 by decide)]; simp only [Desc.fmtChunk, List.length_append, h16]

theorem intake_desc (c : Content) (d : Desc) (hc : c.toBytes = d.enc) (hv : d.Valid) :
    intake c = .ok (infoOf d) ∧
    d.dataPos + d.data.length ≤ c.len ∧ (c.toBytes.drop d.dataPos).take d.data.length = d.data := by
  obtain ⟨h16, hpre, hmid, hsmall⟩ := hv
  have hfe := d.fmtChunk_length h16
  have hde : d.dataChunk.enc.length = 8 + d.data.length := Chunk.enc_length _ (show tagData.length = 4 by decide)
  have hbl : c.len = 12 + d.body.length := by
    rw [← Content.toBytes_length, hc, Desc.enc_eq, List.length_append, riff12_length]
  have hlen : d.body.length = (encChunks d.pre).length + (d.fmtChunk.enc.length + ((encChunks d.mid).length +
      (8 + d.data.length + d.tail.length))) := by
    simp only [Desc.body, List.length_append, hde]
  have hsmall' : c.len < W32 := by rw [← Content.toBytes_length, hc]; exact hsmall
  -- the two searches: `fmt ` behind `pre`, `data` behind `pre`, the `fmt ` chunk and `mid`
  have hfmt := find_skips c tagFmt (riff12 d) d.pre d.fmtChunk (encChunks d.mid ++ (d.dataChunk.enc ++ d.tail))
    (riff12_length d) hc rfl (by decide) (fun k hk => ⟨(hpre k hk).1, (hpre k hk).2.1⟩) hsmall'
  have hdata := find_skips c tagData (riff12 d) (d.pre ++ d.fmtChunk :: d.mid) d.dataChunk d.tail (riff12_length d)
    (by rw [hc, encChunks_append, encChunks_cons]; simp only [Desc.enc_eq, Desc.body, List.append_assoc]) rfl (by decide)
    (by
      intro k hk
      rcases List.mem_append.mp hk with hk | hk
      · exact ⟨(hpre k hk).1, (hpre k hk).2.2⟩
      · rcases List.mem_cons.mp hk with rfl | hk
        · exact ⟨rfl, by show tagFmt ≠ tagData; decide⟩
        · exact hmid k hk) hsmall'
  have hpos : 12 + (encChunks (d.pre ++ d.fmtChunk :: d.mid)).length + 8 = d.dataPos := by
    rw [encChunks_append, encChunks_cons]; simp only [List.length_append, Desc.dataPos]; omega
  rw [hpos] at hdata
  have hrf : readFormat c (12 + (encChunks d.pre).length + 8) = some (d.fmt16 ++ [0, 0]) := by
    have hsplit : c.toBytes = (riff12 d ++ encChunks d.pre ++ (tagFmt ++ encU32 (d.fmt16 ++ d.fmtExtra).length)) ++
        (d.fmt16 ++ (d.fmtExtra ++ (encChunks d.mid ++ (d.dataChunk.enc ++ d.tail)))) := by
      rw [hc, Desc.enc_eq, Desc.body]; simp only [Chunk.enc, Desc.fmtChunk, List.append_assoc]
    have hpl : (riff12 d ++ encChunks d.pre ++ (tagFmt ++ encU32 (d.fmt16 ++ d.fmtExtra).length)).length
        = 12 + (encChunks d.pre).length + 8 := by
      simp only [List.length_append, riff12_length, encU32_length, tagFmt, List.length_cons, List.length_nil]
    unfold readFormat
    rw [if_pos (by unfold formatSize; omega), Content.read_eq, List.take_take, hsplit, List.drop_left' hpl,
      show min 16 formatSize = 16 by decide, List.take_left' h16]
  have hsl : (c.toBytes.drop d.dataPos).take d.data.length = d.data := by
    have hsplit : c.toBytes = (riff12 d ++ encChunks d.pre ++ d.fmtChunk.enc ++ encChunks d.mid ++ (tagData ++ encU32 d.data.length)) ++
        (d.data ++ d.tail) := by
      rw [hc, Desc.enc_eq, Desc.body]; simp only [Chunk.enc, Desc.dataChunk, List.append_assoc]
    rw [hsplit, List.drop_left' (by
      simp only [List.length_append, riff12_length, encU32_length, Desc.dataPos, tagData, List.length_cons, List.length_nil]),
      List.take_left' rfl]
  have hok : headerOk c = true := by
    have hr12 : c.read 0 riffHeaderSize = riff12 d := c.read_at [] (riff12 d) d.body 12 hc (riff12_length d)
    have hsz : u32 (4 + d.body.length + 8) = c.len := by
      unfold u32; unfold W32 at hsmall' ⊢; omega
    unfold headerOk
    -- the three header fields hold by `rfl`: `tagRIFF` and `encU32 _` are explicit four-byte lists
    rw [hr12, show (riff12 d).take 4 = tagRIFF from rfl, show (riff12 d).drop 8 = tagWAVE from rfl,
      show (riff12 d).drop 4 = encU32 (4 + d.body.length) ++ tagWAVE from rfl,
      decU32_encU32 _ (by unfold W32 at hsmall'; omega), hsz]
    simp [riffHeaderSize, hbl]
  exact ⟨intake_eq_ok.mpr ⟨hok, _, _, hfmt, hrf, hdata⟩, by unfold Desc.dataPos; omega, hsl⟩

end Op2.Wave
