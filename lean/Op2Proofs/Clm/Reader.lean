import Op2Model.Clm
import Op2Proofs.Codec
import Op2Proofs.ExceptChain
/-!
# The CLM reader: what `open` returns is what the file records; the calls at a known entry; the extracted WAV header
-/
namespace Op2.Clm
open Op2 Op2.Wave
open Op2.Parser (decU32_encU32 encU32_length)

theorem parseEntries_length : ∀ (n : Nat) (b : Bytes), (parseEntries n b).length = n
  | 0, _ => rfl
  | n + 1, b => by simp [parseEntries, parseEntries_length n]

theorem parseEntries_get : ∀ (n : Nat) (b : Bytes) (i : Nat), i < n →
    (parseEntries n b)[i]? =
      some ⟨(b.drop (16 * i)).take 8, decU32 (b.drop (16 * i + 8)), decU32 (b.drop (16 * i + 12))⟩
  | 0, _, _, h => by omega
  | n + 1, b, 0, _ => by simp [parseEntries]
  | n + 1, b, i + 1, h => by
    have ih := parseEntries_get n (b.drop 16) i (by omega)
    simp only [parseEntries, List.getElem?_cons_succ]
    rw [ih]
    simp only [List.drop_drop]
    have e1 : 16 + 16 * i = 16 * (i + 1) := by omega
    have e2 : 16 + (16 * i + 8) = 16 * (i + 1) + 8 := by omega
    have e3 : 16 + (16 * i + 12) = 16 * (i + 1) + 12 := by omega
    rw [e1, e2, e3]

theorem open_eq_ok {b : Bytes} {v : View} :
    Clm.open b = .ok v ↔
      headerSize ≤ b.length ∧ b.take 32 = version ∧ (b.drop 50).take 6 = unknown ∧
      decU32 (b.drop 56) * entrySize ≤ allocCap ∧ headerSize + decU32 (b.drop 56) * entrySize ≤ b.length ∧
      v = ⟨(b.drop 32).take 18, parseEntries (decU32 (b.drop 56)) (b.drop headerSize)⟩ := by
  unfold Clm.open
  simp only [Except.refuse_eq_ok, Nat.not_lt, Decidable.not_not, Except.ok.injEq, eq_comm (a := v)]

theorem extent_eq_ok {file : Bytes} {off len : Nat} {b : Bytes} :
    extent file off len = .ok b ↔ off + len ≤ file.length ∧ b = (file.drop off).take len := by
  unfold extent
  split
  · rename_i h
    simp only [Except.ok.injEq, h, true_and, eq_comm]
  · rename_i h
    simp [h]

namespace View

theorem entry_eq_ok {v : View} {i : Nat} {e : Entry} : v.entry i = .ok e ↔ v.entries[i]? = some e := by
  unfold entry
  split <;> simp [*]

section
variable {v : View} {i : Nat} {e : Entry} (h : v.entries[i]? = some e)
include h
theorem name_of : v.name i = .ok (entryName e) := by simp only [name, entry, h, Except.map]
theorem size_of : v.size i = .ok e.len := by simp only [size, entry, h, Except.map]
theorem stream_of (file : Bytes) : v.stream file i = extent file e.off e.len := by
  simp only [stream, entry, h, bind, Except.bind]
theorem extractWav_of (file : Bytes) :
    v.extractWav file i = (extent file e.off e.len).map (wavHeader v.fmt e.len ++ ·) := by
  simp only [extractWav, entry, h, bind, Except.bind, pure, Except.pure, Except.map]
end
end View

/-- `WaveHeader::Create` followed by the payload is a self-consistent WAV -/
theorem wavHeader_selfConsistent (fmt payload : Bytes) (hf : 16 ≤ fmt.length) (hl : payload.length + 38 < W32) :
    Spec.SelfConsistentWav (wavHeader fmt payload.length ++ payload) (fmt.take 16) payload := by
  have h16 : (fmt.take 16).length = 16 := by rw [List.length_take]; omega
  unfold W32 at hl
  -- 20 explicit bytes, the 16 format bytes, explicit bytes again.  Nested to the right every field is a few `cons` away,
  -- so the explicit ones hold by `rfl` (as `wavHeader` nests, to the left, each `rfl` unfolds eight `++` per byte: 5× dearer)
  have hw : wavHeader fmt payload.length ++ payload
      = tagRIFF ++ (encU32 (4 + 26 + 8 + payload.length) ++ (tagWAVE ++ (tagFmt ++ (encU32 18 ++
          (fmt.take 16 ++ ([0, 0] ++ (tagData ++ (encU32 payload.length ++ payload)))))))) := by
    simp only [wavHeader, List.append_assoc]
  have h36 : ∀ k, (wavHeader fmt payload.length ++ payload).drop (36 + k)
      = ([0, 0] ++ (tagData ++ (encU32 payload.length ++ payload))).drop k := by
    intro k
    rw [hw, show 36 + k = 20 + (16 + k) by omega, ← List.drop_drop, ← List.drop_drop]
    exact congrArg _ (List.drop_left' h16)
  have hlen : (wavHeader fmt payload.length ++ payload).length = 46 + payload.length := by
    simp only [wavHeader, tagRIFF, tagWAVE, tagFmt, tagData, List.length_append, encU32_length, h16, List.length_cons,
      List.length_nil]
  refine ⟨?_, ?_, ?_, ?_, ?_, ?_, ?_, ?_, ?_, ?_⟩
  · rw [hw]; rfl
  · rw [hlen, hw]
    show decU32 (encU32 (4 + 26 + 8 + payload.length) ++ _) + 8 = _
    rw [decU32_encU32 _ (by omega)]; omega
  · rw [hw]; rfl
  · rw [hw]; rfl
  · rw [hw]; exact decU32_encU32 18 (by omega) _
  · rw [hw]; exact List.take_left' h16
  · rw [h36 0]; rfl
  · rw [h36 2]; rfl
  · rw [h36 6]; exact decU32_encU32 _ (by omega) _
  · rw [h36 10]; rfl

end Op2.Clm
