import Op2Proofs.Clm.Create
/-!
# The bytes `version ++ fmt ++ unknown ++ count ++ index ++ data`: field access, `Spec.WF`, and `Spec.encode`
-/
namespace Op2.Clm
open Op2 Op2.Wave
open Op2.Parser (encU32_length)
open Op2.Codec (drop_advance take_of_drop decU32_of_drop)

def layoutBytes (fmt : Bytes) (n : Nat) (idx D : Bytes) : Bytes := version ++ (fmt ++ (unknown ++ (encU32 n ++ (idx ++ D))))

theorem version_length : version.length = 32 := by decide
theorem unknown_length : unknown.length = 6 := by decide
theorem spec_constants : Spec.versionText = version ∧ Spec.unknownBytes = unknown := by decide

section
variable {fmt idx D : Bytes} {n : Nat} (hf : fmt.length = 18)
include hf

theorem layout_length : (layoutBytes fmt n idx D).length = 60 + idx.length + D.length := by
  simp only [layoutBytes, List.length_append, version_length, unknown_length, encU32_length, hf, ← Nat.add_assoc]

theorem layout_index_length {s : Nat} {items : List (Bytes × Nat)} :
    (layoutBytes fmt n (indexOf s items) D).length = 60 + 16 * items.length + D.length := by
  rw [layout_length hf, indexOf_length]

omit hf in
theorem layout_take32 : (layoutBytes fmt n idx D).take 32 = version := List.take_left' version_length

omit hf in
theorem layout_drop32 : (layoutBytes fmt n idx D).drop 32 = fmt ++ (unknown ++ (encU32 n ++ (idx ++ D))) :=
  List.drop_left' version_length

theorem layout_drop50 : (layoutBytes fmt n idx D).drop 50 = unknown ++ (encU32 n ++ (idx ++ D)) :=
  drop_advance layout_drop32 (by rw [hf])

theorem layout_drop56 : (layoutBytes fmt n idx D).drop 56 = encU32 n ++ (idx ++ D) := drop_advance (layout_drop50 hf) rfl

theorem layout_drop60 : (layoutBytes fmt n idx D).drop 60 = idx ++ D := drop_advance (layout_drop56 hf) rfl

theorem layout_fmt : ((layoutBytes fmt n idx D).drop 32).take 18 = fmt := take_of_drop layout_drop32 hf

theorem layout_unknown : ((layoutBytes fmt n idx D).drop 50).take 6 = unknown := take_of_drop (layout_drop50 hf) rfl

theorem layout_count (hn : n < W32) : decU32 ((layoutBytes fmt n idx D).drop 56) = n := decU32_of_drop (layout_drop56 hf) hn
end

theorem spec_fields_eq_parse (b : Bytes) (n : Nat) (g : Entry → Nat) :
    (List.range n).map (fun i => g ⟨(b.drop (60 + 16 * i)).take 8, Spec.field32 b (60 + 16 * i + 8), Spec.field32 b (60 + 16 * i + 12)⟩)
      = (parseEntries n (b.drop 60)).map g := by
  apply List.ext_getElem?
  intro i
  by_cases hi : i < n
  · rw [List.getElem?_map, List.getElem?_map, parseEntries_get _ _ i hi, List.getElem?_range hi]
    simp only [Option.map_some, Spec.field32, List.drop_drop, Nat.add_assoc]
  · rw [List.getElem?_eq_none (by simp; omega), List.getElem?_eq_none (by simp [parseEntries_length]; omega)]

theorem layout_wf (fmt : Bytes) (items : List (Bytes × Nat)) (n : Nat) (D : Bytes) (hn : items.length = n)
    (hf : fmt.length = 18) (hfit : 60 + 16 * n + (items.map (·.2)).sum ≤ offsetLimit) (hD : D.length = (items.map (·.2)).sum) :
    Spec.WF (layoutBytes fmt n (indexOf (60 + 16 * n) items) D) := by
  subst hn
  have hn : items.length < W32 := by unfold offsetLimit at hfit; unfold W32; omega
  -- (`unfold` first: matching `Spec.count _` against `decU32 (_.drop 56)` by itself unfolds the layout)
  have hcount : Spec.count (layoutBytes fmt items.length (indexOf (60 + 16 * items.length) items) D) = items.length := by
    unfold Spec.count Spec.field32; exact layout_count hf hn
  have hparse : parseEntries items.length ((layoutBytes fmt items.length (indexOf (60 + 16 * items.length) items) D).drop 60)
      = entriesOf (60 + 16 * items.length) items := by
    rw [layout_drop60 hf]; exact parse_indexOf _ _ _ hfit
  have hlens : Spec.lens (layoutBytes fmt items.length (indexOf (60 + 16 * items.length) items) D) = items.map (·.2) := by
    unfold Spec.lens; rw [hcount, spec_fields_eq_parse _ _ (·.len), hparse, entriesOf_lens]
  have hoffs : Spec.offs (layoutBytes fmt items.length (indexOf (60 + 16 * items.length) items) D)
      = Spec.offsetsFrom (60 + 16 * items.length) (items.map (·.2)) := by
    unfold Spec.offs; rw [hcount, spec_fields_eq_parse _ _ (·.off), hparse, entriesOf_offs]
  have hlen := layout_index_length (n := items.length) (s := 60 + 16 * items.length) (items := items) (D := D) hf
  refine ⟨by omega, ?_, ?_, ?_, ?_, ?_⟩
  · rw [layout_take32, spec_constants.1]
  · rw [layout_unknown hf, spec_constants.2]
  · rw [hcount]; omega
  · rw [hoffs, hcount, hlens]
  · rw [hcount, hlens, hlen, hD]

namespace Created
variable {files : List (Bytes × Content)} {a : Archive} {infos : List Info} (h : Created files a infos)
include h

theorem toBytes : a.toBytes = layoutBytes (fmtOf infos) files.length
    (indexOf (60 + 16 * files.length) (itemsOf files infos)) (a.datas.flatMap Content.toBytes) := by
  unfold Archive.toBytes layoutBytes; rw [h.head]; simp only [List.append_assoc]

theorem head_length : a.head.length = 60 + 16 * files.length := by
  simp only [h.head, List.length_append, version_length, unknown_length, encU32_length, h.fmt_len, indexOf_length, h.items_len]

theorem toBytes_length : a.toBytes.length = 60 + 16 * files.length + ((itemsOf files infos).map (·.2)).sum := by
  unfold Archive.toBytes
  rw [List.length_append, h.head_length, Content.flatMap_toBytes_length, h.datas_lens]

theorem wf : Spec.WF a.toBytes := by
  rw [h.toBytes]
  exact layout_wf _ _ _ _ h.items_len h.fmt_len h.fits (by rw [Content.flatMap_toBytes_length, h.datas_lens])

end Created

theorem takeWhile_nul (m : Bytes) (k : Nat) (hm : ∀ x ∈ m, x ≠ 0) : (m ++ zeros k).takeWhile (· ≠ 0) = m := by
  rw [List.takeWhile_append_of_pos (by simpa using hm)]
  simp [zeros]

theorem padName_ok (n : Bytes) (h0 : ∀ x ∈ n, x ≠ 0) (h8 : n.length ≤ 8) : padName n = n ++ zeros (8 - n.length) := by
  have := takeWhile_nul n 0 h0
  rw [show zeros 0 = [] from rfl, List.append_nil] at this
  unfold padName
  simp only [this, List.take_of_length_le h8]

theorem spec_index_eq : ∀ (members : List (Bytes × Bytes)) (start : Nat),
    (∀ m ∈ members, (∀ x ∈ m.1, x ≠ 0) ∧ m.1.length ≤ 8) →
    ((members.zip (Spec.offsetsFrom start (members.map (·.2.length)))).flatMap
        fun (m, o) => (m.1 ++ zeros (8 - m.1.length)) ++ encU32 o ++ encU32 m.2.length)
      = indexOf start (members.map (fun m => (m.1, m.2.length)))
  | [], _, _ => rfl
  | m :: rest, start, h => by
    have hm := h m (by simp)
    simp only [List.map_cons, Spec.offsetsFrom, List.zip_cons_cons, List.flatMap_cons, indexOf, entryBytes]
    rw [spec_index_eq rest (start + m.2.length) (fun x hx => h x (by simp [hx])), padName_ok m.1 hm.1 hm.2]

theorem layout_eq_encode (fmt : Bytes) (members : List (Bytes × Bytes))
    (hn : ∀ m ∈ members, (∀ x ∈ m.1, x ≠ 0) ∧ m.1.length ≤ 8) :
    layoutBytes fmt members.length (indexOf (60 + 16 * members.length) (members.map fun m => (m.1, m.2.length)))
      (members.flatMap (·.2)) = Spec.encode fmt members := by
  unfold Spec.encode layoutBytes
  simp only
  rw [spec_index_eq _ _ hn, spec_constants.1, spec_constants.2]
  simp only [List.append_assoc]

end Op2.Clm
