import Op2Model.Clm
import Op2Proofs.Codec
/-!
# `Content` (bytes + sparse zero tail): `read` and `slice` are what they say on the real bytes
-/
namespace Op2.Content
open Op2

theorem toBytes_length (c : Content) : c.toBytes.length = c.len := by
  simp [toBytes, len, Codec.zeros_length]

theorem toBytes_drop (c : Content) (pos : Nat) :
    c.toBytes.drop pos = c.b.drop pos ++ zeros (c.z - (pos - c.b.length)) := by
  unfold toBytes
  rw [List.drop_append, Codec.zeros_drop]

theorem read_eq (c : Content) (pos n : Nat) : c.read pos n = (c.toBytes.drop pos).take n := by
  unfold read
  rw [toBytes_drop, List.take_append, List.take_append]
  simp only [Codec.zeros_take]
  rw [← Nat.min_assoc, Nat.min_eq_left (Nat.sub_le _ _)]

theorem read_length (c : Content) (pos n : Nat) (h : pos + n ≤ c.len) : (c.read pos n).length = n := by
  rw [read_eq, List.length_take, List.length_drop, toBytes_length]; omega

theorem read_at (c : Content) (pre X rest : Bytes) (n : Nat) (h : c.toBytes = pre ++ (X ++ rest)) (hn : X.length = n) :
    c.read pre.length n = X := by
  rw [read_eq, h, List.drop_left' rfl, List.take_left' hn]

theorem slice_len (c : Content) (pos n : Nat) : (c.slice pos n).len = n := by
  unfold slice len
  simp only [List.length_take, List.length_drop]
  omega

theorem slice_toBytes (c : Content) (pos n : Nat) (h : pos + n ≤ c.len) :
    (c.slice pos n).toBytes = (c.toBytes.drop pos).take n := by
  unfold slice
  simp only [toBytes]
  rw [List.drop_append, List.take_append, Codec.zeros_drop, Codec.zeros_take]
  congr 2
  unfold len at h
  simp only [List.length_take, List.length_drop]
  omega

theorem flatMap_toBytes_length (ds : List Content) : (ds.flatMap toBytes).length = (ds.map len).sum := by
  induction ds with
  | nil => rfl
  | cons d ds ih => simp [List.flatMap_cons, toBytes_length, ih]

end Op2.Content
