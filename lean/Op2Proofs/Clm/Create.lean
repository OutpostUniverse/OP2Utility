import Op2Proofs.Clm.Content
import Op2Proofs.Clm.Walk
import Op2Proofs.Clm.Reader
import Op2Proofs.SortLemmas
/-!
# `Clm.create`: each of its loops in closed form, and what success means

`Created files a infos` is `create files = .ok a` clause by clause; the index and the data extents are given as
functions of the *members* (each file in archive order with what intake found in it), so nothing about a created
archive has to be recovered from `prepareIndex … = some idx` or `slices … = some ds` again.
-/
namespace Op2.Clm
open Op2 Op2.Wave
open Op2.Parser (decU32_encU32 encU32_length)

/-- the index `PrepareIndex` writes, as a function -/
def indexOf : Nat → List (Bytes × Nat) → Bytes
  | _, [] => []
  | off, (n, l) :: rest => entryBytes n off l ++ indexOf (off + l) rest

theorem prepareIndex_eq : ∀ (items : List (Bytes × Nat)) (start : Nat),
    prepareIndex start items =
      if items ≠ [] ∧ start + (items.map (·.2)).sum > offsetLimit then none else some (indexOf start items)
  | [], _ => by simp [prepareIndex, indexOf]
  | (n, l) :: rest, start => by
    unfold prepareIndex
    simp only [prepareIndex_eq rest, List.map_cons, List.sum_cons, ne_eq, reduceCtorEq, not_false_eq_true, true_and, indexOf]
    by_cases h : start + l > offsetLimit
    · rw [if_pos h, if_pos (by omega)]
    · rw [if_neg h]
      by_cases hr : rest = []
      · subst hr; simp [h]
      · simp only [hr, not_false_eq_true, true_and, Nat.add_assoc]
        split <;> rfl

theorem prepareIndex_eq_none (items : List (Bytes × Nat)) (start : Nat) :
    prepareIndex start items = none ↔ items ≠ [] ∧ start + (items.map (·.2)).sum > offsetLimit := by
  rw [prepareIndex_eq]; split <;> simp [*]

theorem prepareIndex_of_fits {items : List (Bytes × Nat)} {start : Nat} (h : start + (items.map (·.2)).sum ≤ offsetLimit) :
    prepareIndex start items = some (indexOf start items) := by
  rw [prepareIndex_eq, if_neg (by omega)]

theorem padName_length (n : Bytes) : (padName n).length = 8 := by
  unfold padName
  simp only [List.length_append, Codec.zeros_length, List.length_take]
  omega

theorem indexOf_length : ∀ (items : List (Bytes × Nat)) (start : Nat), (indexOf start items).length = 16 * items.length
  | [], _ => rfl
  | (n, l) :: rest, start => by
    simp only [indexOf, entryBytes, List.length_append, padName_length, encU32_length, List.length_cons, indexOf_length rest]
    omega

def entriesOf : Nat → List (Bytes × Nat) → List Entry
  | _, [] => []
  | off, (n, l) :: rest => ⟨padName n, off, l⟩ :: entriesOf (off + l) rest

theorem entriesOf_length : ∀ (items : List (Bytes × Nat)) (start : Nat), (entriesOf start items).length = items.length
  | [], _ => rfl
  | (_, _) :: rest, start => by simp [entriesOf, entriesOf_length rest]

theorem entriesOf_lens : ∀ (items : List (Bytes × Nat)) (start : Nat), (entriesOf start items).map (·.len) = items.map (·.2)
  | [], _ => rfl
  | (_, _) :: rest, start => by simp [entriesOf, entriesOf_lens rest]

theorem entriesOf_offs : ∀ (items : List (Bytes × Nat)) (start : Nat),
    (entriesOf start items).map (·.off) = Spec.offsetsFrom start (items.map (·.2))
  | [], _ => rfl
  | (_, _) :: rest, start => by simp [entriesOf, Spec.offsetsFrom, entriesOf_offs rest]

theorem entriesOf_names : ∀ (items : List (Bytes × Nat)) (start : Nat),
    (entriesOf start items).map (·.name8) = items.map (fun it => padName it.1)
  | [], _ => rfl
  | (_, _) :: rest, start => by simp [entriesOf, entriesOf_names rest]

theorem parse_indexOf : ∀ (items : List (Bytes × Nat)) (start : Nat) (rest : Bytes),
    start + (items.map (·.2)).sum ≤ offsetLimit →
    parseEntries items.length (indexOf start items ++ rest) = entriesOf start items
  | [], _, _, _ => rfl
  | (n, l) :: items, start, rest, h => by
    simp only [List.map_cons, List.sum_cons] at h
    have hp := padName_length n
    simp only [List.length_cons, parseEntries, entriesOf, indexOf, entryBytes, List.append_assoc]
    rw [List.take_left' hp, show (12 : Nat) = 8 + 4 from rfl, show (16 : Nat) = 8 + (4 + 4) from rfl, ← List.drop_drop,
      ← List.drop_drop, ← List.drop_drop, List.drop_left' hp, List.drop_left' (encU32_length _), List.drop_left' (encU32_length _),
      parse_indexOf items (start + l) rest (by omega)]
    unfold offsetLimit at h
    rw [decU32_encU32 start (by omega), decU32_encU32 l (by omega)]

theorem intakeAll_eq_ok : ∀ (cs : List Content) (infos : List Info),
    intakeAll cs = .ok infos ↔ cs.map intake = infos.map .ok
  | [], infos => by cases infos <;> simp [intakeAll]
  | c :: cs, infos => by
    have ih := intakeAll_eq_ok cs
    unfold intakeAll
    cases hi : intake c with
    | hang => cases infos <;> simp [hi]
    | err => cases infos <;> simp [hi]
    | ok i =>
      cases his : intakeAll cs with
      | hang | err =>
        cases infos with
        | nil => simp
        | cons j js =>
          simp only [reduceCtorEq, List.map_cons, List.cons.injEq, false_iff, not_and]
          intro _ h
          rw [← ih, his] at h
          cases h
      | ok is =>
        cases infos with
        | nil => simp
        | cons j js => simp [hi, ← ih, his]

theorem intakeAll_length {cs : List Content} {infos : List Info} (h : intakeAll cs = .ok infos) : infos.length = cs.length := by
  have := congrArg List.length ((intakeAll_eq_ok cs infos).mp h)
  simpa using this.symm

theorem slices_eq_some : ∀ (l : List (Content × Info)) (ds : List Content),
    slices l = some ds ↔
      (∀ p ∈ l, p.2.dataPos + p.2.dataLen ≤ p.1.len) ∧ ds = l.map fun p => p.1.slice p.2.dataPos p.2.dataLen
  | [], ds => by simp [slices, eq_comm]
  | (c, i) :: rest, ds => by
    unfold slices
    split
    · rename_i h
      simp only [Option.map_eq_some_iff, slices_eq_some rest, List.forall_mem_cons, List.map_cons, h, true_and]
      constructor
      · rintro ⟨_, ⟨hr, rfl⟩, rfl⟩; exact ⟨hr, rfl⟩
      · rintro ⟨hr, rfl⟩; exact ⟨_, ⟨hr, rfl⟩, rfl⟩
    · rename_i h
      simp [h]

theorem allSameFmt_iff (infos : List Info) : allSameFmt infos = true ↔ ∀ i ∈ infos, ∀ j ∈ infos, i.fmt = j.fmt := by
  cases infos with
  | nil => simp [allSameFmt]
  | cons x rest =>
    simp only [allSameFmt, List.all_eq_true, beq_iff_eq]
    constructor
    · intro h i hi j hj
      have hx : ∀ y ∈ x :: rest, y.fmt = x.fmt := by
        intro y hy
        rcases List.mem_cons.mp hy with rfl | hy
        · rfl
        · exact h y hy
      rw [hx i hi, hx j hj]
    · intro h j hj
      exact h j (by simp [hj]) x (by simp)

abbrev sorted (files : List (Bytes × Content)) : List (Bytes × Content) :=
  Str.sortCI (fun f : Bytes × Content => Path.getFilename f.1) files
abbrev namesOf (files : List (Bytes × Content)) : List Bytes := (sorted files).map (fun f => nameOf f.1)
abbrev fmtOf (infos : List Info) : Bytes := match infos with | [] => defaultFmt | i :: _ => i.fmt

abbrev membersOf (files : List (Bytes × Content)) (infos : List Info) : List ((Bytes × Content) × Info) :=
  (sorted files).zip infos

abbrev itemsOf (files : List (Bytes × Content)) (infos : List Info) : List (Bytes × Nat) :=
  (membersOf files infos).map fun m => (nameOf m.1.1, m.2.dataLen)

/-- the sizes are the literals of `Spec.WF` (60 = `headerSize`, 16 = `entrySize`) -/
structure Created (files : List (Bytes × Content)) (a : Archive) (infos : List Info) : Prop where
  intake : intakeAll ((sorted files).map (·.2)) = .ok infos
  sameFmt : allSameFmt infos = true
  short : ∀ n ∈ namesOf files, n.length ≤ nameMax
  noDup : Str.hasAdjacentDup (namesOf files) = false
  fits : 60 + 16 * files.length + ((itemsOf files infos).map (·.2)).sum ≤ offsetLimit
  inside : ∀ m ∈ membersOf files infos, m.2.dataPos + m.2.dataLen ≤ m.1.2.len
  head : a.head = version ++ fmtOf infos ++ unknown ++ encU32 files.length ++
    indexOf (60 + 16 * files.length) (itemsOf files infos)
  datas : a.datas = (membersOf files infos).map fun m => m.1.2.slice m.2.dataPos m.2.dataLen

theorem fmtOf_map {α : Type} {l : List α} {info : α → Info} {f : Bytes} (h : ∀ x ∈ l, (info x).fmt = f) {x : α} (hx : x ∈ l) :
    fmtOf (l.map info) = f := by
  cases l with
  | nil => cases hx
  | cons y ys => exact h y (by simp)

theorem namesOf_length (files : List (Bytes × Content)) : (namesOf files).length = files.length := by
  rw [List.length_map, Str.length_sortCI]

theorem zips_eq (files : List (Bytes × Content)) (infos : List Info) :
    (namesOf files).zip (infos.map (·.dataLen)) = itemsOf files infos ∧
    ((sorted files).map (·.2)).zip infos = (membersOf files infos).map (fun m => (m.1.2, m.2)) := by
  constructor
  · rw [List.zip_map]; rfl
  · rw [List.zip_map_left]; rfl

theorem infos_length_of_intake {files : List (Bytes × Content)} {infos : List Info}
    (h : intakeAll ((sorted files).map (·.2)) = .ok infos) : infos.length = files.length := by
  rw [intakeAll_length h, List.length_map, Str.length_sortCI]

theorem create_eq_ok (files : List (Bytes × Content)) (a : Archive) :
    create files = .ok a ↔ ∃ infos, Created files a infos := by
  have hstart : headerSize + (namesOf files).length * entrySize = 60 + 16 * files.length := by
    rw [namesOf_length]; unfold headerSize entrySize; omega
  have hany : (namesOf files).any (fun n => decide (n.length > nameMax)) = false ↔ ∀ n ∈ namesOf files, n.length ≤ nameMax := by
    simp only [List.any_eq_false, decide_eq_true_eq, Nat.not_lt]
  constructor
  · intro h
    unfold create at h
    simp only at h
    split at h; · cases h
    · cases h
    rename_i infos hint
    split at h; · cases h
    split at h; · cases h
    split at h; · cases h
    rename_i hs hl hd
    rw [hstart, (zips_eq files infos).1, (zips_eq files infos).2] at h
    split at h; · cases h
    split at h; · cases h
    rename_i _ idx hidx _ ds hds
    obtain rfl := Res.ok.inj h
    rw [prepareIndex_eq] at hidx
    split at hidx; · cases hidx
    rename_i hfit
    obtain rfl := Option.some.inj hidx
    obtain ⟨hin, rfl⟩ := (slices_eq_some _ _).mp hds
    refine ⟨infos, hint, by simpa using hs, hany.mp (Bool.eq_false_iff.mpr hl), Bool.eq_false_iff.mpr hd, ?_, ?_, ?_, ?_⟩
    · -- without members the bound is `60 ≤ offsetLimit`
      by_cases he : itemsOf files infos = []
      · have h0 := congrArg List.length he
        simp only [List.length_map, List.length_zip, Str.length_sortCI, infos_length_of_intake hint, Nat.min_self,
          List.length_nil] at h0
        rw [he, h0]; decide
      · exact Nat.le_of_not_gt fun hgt => hfit ⟨he, hgt⟩
    · intro m hm
      exact hin (m.1.2, m.2) (List.mem_map.mpr ⟨m, hm, rfl⟩)
    · simp only [namesOf_length]; rfl
    · simp only [List.map_map]; rfl
  · rintro ⟨infos, hc⟩
    unfold create
    simp only
    rw [hc.intake]
    simp only
    rw [if_neg (by simp [hc.sameFmt]), if_neg (by rw [hany.mpr hc.short]; simp), if_neg (by simp [hc.noDup]), hstart,
      (zips_eq files infos).1, (zips_eq files infos).2, prepareIndex_of_fits hc.fits,
      (slices_eq_some _ _).mpr ⟨fun p hp => by
        obtain ⟨m, hm, rfl⟩ := List.mem_map.mp hp
        exact hc.inside m hm, rfl⟩]
    obtain ⟨head, datas⟩ := a
    have h1 : head = _ := hc.head
    have h2 : datas = _ := hc.datas
    subst h1 h2
    simp only [namesOf_length, List.map_map]
    rfl

namespace Created
variable {files : List (Bytes × Content)} {a : Archive} {infos : List Info} (h : Created files a infos)
include h

theorem infos_len : infos.length = files.length := infos_length_of_intake h.intake

theorem items_len : (itemsOf files infos).length = files.length := by
  simp only [List.length_map, List.length_zip, Str.length_sortCI, h.infos_len, Nat.min_self]

theorem lens : (itemsOf files infos).map (·.2) = infos.map (·.dataLen) := by
  rw [← (zips_eq files infos).1, List.map_snd_zip (by rw [namesOf_length, List.length_map, h.infos_len]; omega)]

theorem datas_lens : a.datas.map Content.len = (itemsOf files infos).map (·.2) := by
  rw [h.datas]; simp only [List.map_map]
  exact List.map_congr_left fun m _ => Content.slice_len _ _ _

theorem fmt_len : (fmtOf infos).length = 18 := by
  cases infos with
  | nil => decide
  | cons i rest =>
    have h0 := (intakeAll_eq_ok _ _).mp h.intake
    cases hs : sorted files with
    | nil => rw [hs] at h0; cases h0
    | cons f fs =>
      rw [hs] at h0
      obtain ⟨_, _, p, _, hr, _⟩ := intake_eq_ok.mp (List.cons.inj h0).1
      exact readFormat_length hr

theorem intake_each : ∀ f ∈ files, ∃ i ∈ infos, Wave.intake f.2 = .ok i := by
  intro f hf
  have hm : Wave.intake f.2 ∈ ((sorted files).map (·.2)).map Wave.intake :=
    List.mem_map.mpr ⟨f.2, List.mem_map.mpr ⟨f, Str.mem_sortCI.mpr hf, rfl⟩, rfl⟩
  rw [(intakeAll_eq_ok _ _).mp h.intake] at hm
  obtain ⟨i, hi, e⟩ := List.mem_map.mp hm
  exact ⟨i, hi, e.symm⟩

end Created

theorem create_ne_hang (files : List (Bytes × Content)) (hlen : ∀ f ∈ files, f.2.len < 2 ^ 63) : create files ≠ .hang := by
  unfold create
  have hs : ∀ c ∈ (sorted files).map (·.2), c.len < 2 ^ 63 := by
    intro c hc
    obtain ⟨f, hf, rfl⟩ := List.mem_map.mp hc
    exact hlen f (Str.mem_sortCI.mp hf)
  have := intakeAll_ne_hang _ hs
  simp only
  split
  · rename_i e; exact absurd e this
  · simp
  · split; · simp
    split; · simp
    split; · simp
    split; · simp
    split <;> simp

theorem create_err_of (files : List (Bytes × Content)) (hlen : ∀ f ∈ files, f.2.len < 2 ^ 63)
    (h : ∀ a infos, ¬ Created files a infos) : create files = .err := by
  cases hc : create files with
  | ok a =>
    obtain ⟨infos, hi⟩ := (create_eq_ok files a).mp hc
    exact absurd hi (h a infos)
  | err => rfl
  | hang => exact absurd hc (create_ne_hang files hlen)

end Op2.Clm
