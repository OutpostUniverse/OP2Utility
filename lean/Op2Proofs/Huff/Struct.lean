import Op2Proofs.Huff.Inv
/-! `Struct` lists what `link` and `par` do to each other field by field (left / right child, even / odd node, code
slot).  Here that is said once: `par j = i ↔ Child t i j` for every slot `j` other than the root, both as a consequence
(`par_eq_iff`) and as a way to establish `Struct` (`of_child`). -/
namespace Op2.Huff
namespace TF

def sib (j : Nat) : Nat := if j % 2 = 0 then j + 1 else j - 1

/-- `j` is the left or the right child of the node `i`, or the code slot of the leaf `i` -/
def Child (t : TF) (i j : Nat) : Prop := t.link i = j ∨ (t.link i < t.n ∧ t.link i + 1 = j)

instance (t : TF) (i j : Nat) : Decidable (Child t i j) := inferInstanceAs (Decidable (_ ∨ _))

theorem root_lt {t : TF} (h : 2 ≤ t.T) : t.root < t.n := by unfold root n; omega
theorem lt_root {t : TF} {c : Nat} (h : c < t.n) (hc : c ≠ t.root) : c < t.n - 1 := by unfold root at hc; omega
theorem root_sub_le (t : TF) (c : Nat) : t.root - c ≤ t.n := by unfold root; omega

theorem mono_of_sorted {f : Nat → Nat} {n : Nat} (h : ∀ i, i + 1 < n → f i ≤ f (i + 1)) {i j : Nat}
    (hij : i ≤ j) (hj : j < n) : f i ≤ f j := by
  induction hij with
  | refl => exact Nat.le_refl _
  | step _ ih => exact Nat.le_trans (ih (by omega)) (h _ hj)

namespace Struct
variable {t : TF} (s : Struct t)
include s

theorem node_par {j : Nat} (hj : j < t.n - 1) : t.par j < t.n ∧ t.link (t.par j) + j % 2 = j := by
  rcases Nat.mod_two_eq_zero_or_one j with h | h <;> rw [h]
  · exact s.chL j hj h
  · exact s.chR j hj h

theorem down {j : Nat} (hj : j < t.n - 1) : t.link (t.par j) + j % 2 = j := (s.node_par hj).2

theorem par_lt {j : Nat} (hj : j < t.n + t.T) (hr : j ≠ t.root) : t.par j < t.n := by
  by_cases h : j < t.n
  · exact (s.node_par (lt_root h hr)).1
  · exact (s.chC j (by omega) hj).1

theorem parent_lt {j : Nat} (hj : j < t.n - 1) :
    t.par j < t.n ∧ t.link (t.par j) < t.n ∧ j < t.par j ∧
    (t.link (t.par j) = j ∨ t.link (t.par j) + 1 = j) := by
  obtain ⟨hp, hd⟩ := s.node_par hj
  have := s.rng _ hp
  omega

theorem link_lt {i : Nat} (hi : i < t.n) : t.link i < t.n + t.T := by
  have := s.rng i hi; omega

theorem root_not_child {k : Nat} (hk : k < t.n) (hl : t.link k < t.n) :
    t.link k ≠ t.root ∧ t.link k + 1 ≠ t.root := by
  have := s.rng k hk; unfold root; omega

theorem par_eq_iff {i j : Nat} (hi : i < t.n) (hj : j < t.n + t.T) (hr : j ≠ t.root) :
    t.par j = i ↔ Child t i j := by
  constructor
  · intro e
    subst e
    by_cases h : j < t.n
    · have := s.down (lt_root h hr); unfold Child; omega
    · exact Or.inl (s.chC j (by omega) hj).2
  · rintro (e | ⟨hl, e⟩)
    · rw [← e]; exact s.parL i hi
    · rw [← e]; exact s.parR i hi hl

theorem ind_sum {k x : Nat} (hk : k < t.n) (hl : t.link k < t.n) (hx : x < t.n - 1) :
    (if t.link k = x then 1 else 0) + (if t.link k + 1 = x then 1 else 0) = (if k = t.par x then 1 else 0) := by
  have h := s.par_eq_iff hk (j := x) (by omega) (by unfold root; omega)
  by_cases e : t.par x = k
  · rcases h.mp e with e1 | ⟨_, e2⟩
    · rw [if_pos e1, if_neg (by omega), if_pos e.symm]
    · rw [if_neg (by omega), if_pos e2, if_pos e.symm]
  · rw [if_neg (fun e1 => e (h.mpr (Or.inl e1))), if_neg (fun e2 => e (h.mpr (Or.inr ⟨hl, e2⟩))),
      if_neg (fun e' => e e'.symm)]

end Struct

theorem Struct.children {t : TF} (s : Struct t) {j : Nat} (hj : j < t.n - 1) :
    (t.link (t.par j) = j ∧ t.link (t.par j) + 1 = sib j) ∨ (t.link (t.par j) = sib j ∧ t.link (t.par j) + 1 = j) := by
  have hd := s.down hj
  unfold sib
  rcases Nat.mod_two_eq_zero_or_one j with h | h <;> rw [h] at hd
  · rw [if_pos h]; exact Or.inl ⟨hd, congrArg (· + 1) hd⟩
  · rw [if_neg (by omega)]; right; omega

/-- which side a child is on, and that a code slot hangs below a leaf, follow from the parities and ranges in `rng` -/
theorem Struct.of_child {t : TF} (hT : 2 ≤ t.T)
    (rng : ∀ i, i < t.n → (t.link i < t.n - 1 ∧ t.link i % 2 = 0 ∧ t.link i + 1 < i) ∨ (t.n ≤ t.link i ∧ t.link i < t.n + t.T))
    (par_lt : ∀ j, j < t.n + t.T → j ≠ t.root → t.par j < t.n)
    (par_iff : ∀ i j, i < t.n → j < t.n + t.T → j ≠ t.root → (t.par j = i ↔ Child t i j))
    (rootInner : t.link t.root < t.n) : Struct t := by
  have hch : ∀ j, j < t.n + t.T → j ≠ t.root → t.par j < t.n ∧ Child t (t.par j) j :=
    fun j hj hr => ⟨par_lt j hj hr, (par_iff _ j (par_lt j hj hr) hj hr).mp rfl⟩
  have hnode : ∀ j, j < t.n - 1 → t.par j < t.n ∧ Child t (t.par j) j := fun j hj =>
    hch j (Nat.lt_of_lt_of_le hj (Nat.le_trans (Nat.sub_le _ _) (Nat.le_add_right _ _))) (Nat.ne_of_lt hj)
  have inner : ∀ i, i < t.n → t.link i < t.n → t.link i % 2 = 0 ∧ t.link i + 1 < t.n - 1 := by
    intro i hi hl; have := rng i hi; omega
  refine ⟨hT, rng, ?_, ?_, ?_, ?_, ?_, rootInner⟩
  · intro i hi
    have := rng i hi
    exact (par_iff i _ hi (by omega) (by unfold root; omega)).mpr (Or.inl rfl)
  · intro i hi hl
    have := inner i hi hl
    exact (par_iff i _ hi (by omega) (by unfold root; omega)).mpr (Or.inr ⟨hl, rfl⟩)
  · intro j hj hm
    obtain ⟨h1, h2⟩ := hnode j hj
    exact ⟨h1, h2.elim id (fun h => by have := inner _ h1 h.1; omega)⟩
  · intro j hj hm
    obtain ⟨h1, h2⟩ := hnode j hj
    exact ⟨h1, h2.elim (fun h => by have := inner _ h1 (by omega); omega) (fun h => h.2)⟩
  · intro j hj1 hj2
    obtain ⟨h1, h2⟩ := hch j hj2 (by unfold root; omega)
    exact ⟨h1, h2.elim id (fun h => by have := inner _ h1 h.1; omega)⟩

end TF
end Op2.Huff
