import Op2Model.HuffArr
import Op2Proofs.Huff.Update
/-!
# The array tree refines the function-level tree (and every store is in bounds)
-/
namespace Op2.Huff
open TF

structure Tab (arr : Array Nat) (k : Nat) (f : Nat → Nat) : Prop where
  size : arr.size = k
  view : vw arr = f

namespace Tab
variable {arr : Array Nat} {k : Nat} {f : Nat → Nat}

theorem set (h : Tab arr k f) {i : Nat} (hi : i < k) (v : Nat) : Tab (arr.setIfInBounds i v) k (upd f i v) where
  size := by rw [Array.size_setIfInBounds]; exact h.size
  view := by
    rw [← h.view]
    funext j
    simp only [vw, upd, Array.getD_eq_getD_getElem?, Array.getElem?_setIfInBounds]
    by_cases e : j = i
    · subst e; simp [h.size, hi]
    · simp [e, Ne.symm e]

theorem setIf (h : Tab arr k f) (c : Prop) [Decidable c] {i : Nat} (hi : c → i < k) (v : Nat) :
    Tab (if c then arr.setIfInBounds i v else arr) k (if c then upd f i v else f) := by
  split
  · next hc => exact h.set (hi hc) v
  · exact h

end Tab

namespace TA

theorem view_T (a : TA) : a.view.T = a.T := rfl
theorem view_n (a : TA) : a.view.n = a.n := rfl
theorem view_root (a : TA) : a.view.root = a.root := rfl
theorem view_link (a : TA) (i : Nat) : a.view.link i = a.link.getD i 0 := rfl
theorem view_cnt (a : TA) (i : Nat) : a.view.cnt i = a.cnt.getD i 0 := rfl
theorem view_par (a : TA) (i : Nat) : a.view.par i = a.par.getD i 0 := rfl

theorem view_of_tabs {a : TA} {t : TF} (hT : a.T = t.T) (hl : Tab a.link a.n t.link) (hc : Tab a.cnt a.n t.cnt)
    (hp : Tab a.par (a.n + a.T) t.par) : a.view = t ∧ a.Sized := by
  refine ⟨?_, hl.size, hc.size, hp.size⟩
  cases t
  simp only [view, TF.mk.injEq]
  exact ⟨hT, hl.view, hc.view, hp.view⟩

theorem Sized.link {a : TA} (s : a.Sized) : Tab a.link a.n a.view.link := ⟨s.1, rfl⟩
theorem Sized.cnt {a : TA} (s : a.Sized) : Tab a.cnt a.n a.view.cnt := ⟨s.2.1, rfl⟩
theorem Sized.par {a : TA} (s : a.Sized) : Tab a.par (a.n + a.T) a.view.par := ⟨s.2.2, rfl⟩

theorem scan_view (a : TA) (c : Nat) : ∀ fuel b, scan a.cnt c b fuel = TF.scan a.view c b fuel := by
  intro fuel
  induction fuel with
  | zero => intro b; rfl
  | succ f ih => intro b; rw [scan, TF.scan, ih]; rfl

theorem bump_view (a : TA) (s : a.Sized) (i : Nat) (hi : i < a.n) :
    (a.bump i).view = a.view.bump i ∧ (a.bump i).Sized :=
  view_of_tabs rfl s.link (s.cnt.set hi _) s.par

/-- the stores of `SwapNodes` all land inside the tables when both nodes are nodes and their links are links or
    symbols -/
theorem swap_view (a : TA) (s : a.Sized) (x y : Nat) (hx : x < a.n) (hy : y < a.n)
    (hlx : a.link.getD x 0 < a.n + a.T) (hly : a.link.getD y 0 < a.n + a.T) (hT : 1 ≤ a.T) :
    (a.swap x y).view = a.view.swap x y ∧ (a.swap x y).Sized :=
  view_of_tabs rfl ((s.link.set hx _).set hy _) ((s.cnt.set hx _).set hy _)
    ((((s.par.set hlx _).setIf _ (fun h => by omega) _).set hly _).setIf _ (fun h => by omega) _)

theorem root_eq (a : TA) : a.root = a.view.root := rfl

theorem climb_root (a : TA) (fuel : Nat) : climb a a.root fuel = a := by
  cases fuel with
  | zero => rfl
  | succ f => rw [climb, if_pos rfl]

theorem climb_succ (a : TA) {c : Nat} (h : c ≠ a.root) (fuel : Nat) :
    climb a c (fuel + 1) =
      climb ((a.swap c (scan a.cnt c c a.n)).bump ((a.swap c (scan a.cnt c c a.n)).par.getD (scan a.cnt c c a.n) 0))
        ((a.swap c (scan a.cnt c c a.n)).par.getD (scan a.cnt c c a.n) 0) fuel := by
  rw [climb, if_neg h]

theorem climb_view : ∀ fuel (a : TA) (c : Nat), a.Sized → LoopInv a.view c → a.root - c ≤ fuel →
    (climb a c fuel).view = TF.climb a.view c fuel ∧ (climb a c fuel).Sized := by
  intro fuel a c s L h
  refine climb_induction (motive := fun t c fuel => ∀ a : TA, a.view = t → a.Sized →
      (climb a c fuel).view = TF.climb t c fuel ∧ (climb a c fuel).Sized)
    ?_ ?_ fuel a.view c L h a rfl s
  · intro t fuel _ a hv s
    rw [← hv, TF.climb_root, ← root_eq, climb_root]; exact ⟨rfl, s⟩
  · intro t c fuel b t1 X hb L' hcl ih a hv s
    subst hv
    obtain ⟨sv, ss⟩ := swap_view a s c b X.hcn X.hbn (X.L.st.link_lt X.hcn) (X.L.st.link_lt X.hbn)
      (Nat.le_of_succ_le X.L.st.hT)
    rw [← X.ht1] at sv
    obtain ⟨bv, bs⟩ := bump_view _ ss (t1.par b) (by rw [← view_n, sv]; exact L'.hc)
    have hstep : climb a c (fuel + 1) = climb ((a.swap c b).bump (t1.par b)) (t1.par b) fuel := by
      rw [climb_succ a (show c ≠ a.root from X.hc), scan_view, ← view_n, ← hb, ← view_par (a.swap c b), sv]
    rw [hstep, hcl]
    exact ih _ (by rw [bv, sv]) bs

theorem update_view (a : TA) (s : a.Sized) (w : WF a.view) (code : Nat) (hcode : code < a.T) :
    (a.update code).view = a.view.update code ∧ (a.update code).Sized ∧ (a.update code).T = a.T := by
  have L := (w.start (show code < a.view.T from hcode)).1
  obtain ⟨bv, bs⟩ := bump_view a s _ L.hc
  obtain ⟨cv, cs⟩ := climb_view a.view.n _ _ bs (by rw [bv]; exact L) (root_sub_le a.view _)
  rw [bv] at cv
  have uv : (a.update code).view = a.view.update code := cv
  exact ⟨uv, cs, by rw [← view_T, uv]; exact update_T a.view code⟩

theorem updateChecked_eq_ok {a a' : TA} {code : Nat} :
    a.updateChecked code = .ok a' ↔ code < a.T ∧ a.cnt.getD a.root 0 < maxCount ∧ a' = a.update code := by
  simp only [updateChecked, Except.refuse_eq_ok, Except.ok.injEq, Nat.not_le, eq_comm (a := a')]

theorem updateChecked_view (a : TA) (s : a.Sized) (w : WF a.view) (code : Nat) :
    (match a.updateChecked code with
     | .ok a' => TF.updateChecked a.view code = .ok a'.view ∧ a'.Sized
     | .error e => TF.updateChecked a.view code = .error e) := by
  unfold updateChecked TF.updateChecked
  by_cases h1 : code ≥ a.T
  · rw [if_pos h1, if_pos (show code ≥ a.view.T from h1)]
  · rw [if_neg h1, if_neg (show ¬ code ≥ a.view.T from h1)]
    by_cases h2 : a.cnt.getD a.root 0 ≥ maxCount
    · rw [if_pos h2, if_pos (show a.view.cnt a.view.root ≥ maxCount from h2)]
    · rw [if_neg h2, if_neg (show ¬ a.view.cnt a.view.root ≥ maxCount from h2)]
      obtain ⟨uv, us, _⟩ := update_view a s w code (by omega)
      exact ⟨by rw [uv], us⟩

end TA

/-! Well-formedness only looks inside the tables: two trees that agree on every table entry are well formed together.
That starts the array tree: `TA.init T` freezes `TF.init T`, and reads 0 outside the tables. -/

namespace TF

structure Agree (t u : TF) : Prop where
  hT : t.T = u.T
  link : ∀ i, i < t.n → t.link i = u.link i
  cnt : ∀ i, i < t.n → t.cnt i = u.cnt i
  par : ∀ j, j < t.n + t.T → t.par j = u.par j

theorem Agree.n_eq {t u : TF} (g : Agree t u) : t.n = u.n := by unfold n; rw [g.hT]

theorem Agree.struct {t u : TF} (g : Agree t u) (s : Struct t) : Struct u := by
  have hn := g.n_eq
  have hr : t.root = u.root := by unfold root; rw [hn]
  refine Struct.of_child (g.hT ▸ s.hT) ?_ ?_ ?_ ?_
  · intro i hi
    rw [← hn] at hi ⊢; rw [← g.hT, ← g.link i hi]; exact s.rng i hi
  · intro j hj hr'
    rw [← hn, ← g.hT] at hj; rw [← hr] at hr'
    rw [← hn, ← g.par j hj]; exact s.par_lt hj hr'
  · intro i j hi hj hr'
    rw [← hn] at hi; rw [← hn, ← g.hT] at hj; rw [← hr] at hr'
    unfold Child
    rw [← hn, ← g.par j hj, ← g.link i hi]; exact s.par_eq_iff hi hj hr'
  · rw [← hr, ← hn, ← g.link _ (root_lt s.hT)]; exact s.rootInner

theorem Agree.wf {t u : TF} (g : Agree t u) (w : WF t) : WF u := by
  have hn := g.n_eq
  refine ⟨g.struct w.st, ?_, ?_, ?_⟩
  · intro i hi; rw [← hn] at hi; rw [← g.cnt i hi]; exact w.pos i hi
  · intro i hi; rw [← hn] at hi; rw [← g.cnt i (by omega), ← g.cnt (i + 1) hi]; exact w.sorted i hi
  · intro i hi hl
    rw [← hn] at hi hl
    rw [← g.link i hi] at hl ⊢
    have r := w.st.rng i hi
    rw [← g.cnt i hi, ← g.cnt _ hl, ← g.cnt _ (by omega)]
    exact w.sums i hi hl

end TF

namespace TA

theorem vw_ofFn (k : Nat) (f : Nat → Nat) (i : Nat) (hi : i < k) : vw (Array.ofFn (n := k) (fun j => f j.val)) i = f i := by
  simp [vw, Array.getD_eq_getD_getElem?, hi]

theorem ofTF_sized (t : TF) : (ofTF t).Sized := by
  refine ⟨?_, ?_, ?_⟩ <;> simp [ofTF, TA.n, TF.n]

theorem ofTF_agree (t : TF) : Agree t (ofTF t).view :=
  ⟨rfl, fun i hi => (vw_ofFn _ _ i hi).symm, fun i hi => (vw_ofFn _ _ i hi).symm, fun j hj => (vw_ofFn _ _ j hj).symm⟩

theorem init_wf (T : Nat) (hT : 2 ≤ T) : WF (TA.init T).view ∧ (TA.init T).Sized ∧ (TA.init T).T = T :=
  ⟨(ofTF_agree (TF.init T)).wf (TF.init_wf hT), ofTF_sized _, rfl⟩

theorem init_root_cnt (T : Nat) (hT : 2 ≤ T) : (TA.init T).view.cnt (TA.init T).view.root = T := by
  show (ofTF (TF.init T)).view.cnt (TF.init T).root = T
  rw [← (ofTF_agree (TF.init T)).cnt _ (root_lt hT)]
  exact TF.init_root_cnt T hT

end TA
end Op2.Huff
