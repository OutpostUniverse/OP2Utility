import Op2Proofs.Huff.Struct
/-!
# A tree with the structure invariant is a prefix code: the encoder's bits lead the decoder to the symbol's leaf (C15)
-/
namespace Op2.Huff
namespace TF

theorem walk_append (t : TF) (node : Nat) (xs : List Nat) (b : Nat) :
    walk t node (xs ++ [b]) = t.link (walk t node xs) + b := by
  simp [walk, List.foldl_append]

theorem walk_up {t : TF} (s : Struct t) : ∀ fuel j, j < t.n → t.root - j ≤ fuel →
    walk t t.root (up t j fuel).reverse = j := by
  intro fuel
  induction fuel with
  | zero =>
    intro j hj h
    have : j = t.root := by unfold root at *; omega
    simp [up, walk, this]
  | succ fuel ih =>
    intro j hj h
    simp only [up]
    split
    · rename_i e; simp [walk, e]
    · rename_i e
      have hj' := lt_root hj e
      obtain ⟨hp, _, hlt, _⟩ := s.parent_lt hj'
      rw [List.reverse_cons, walk_append, ih (t.par j) hp (by omega)]
      exact s.down hj'

theorem up_length_le {t : TF} (s : Struct t) : ∀ fuel j, j < t.n → (up t j fuel).length ≤ t.root - j := by
  intro fuel
  induction fuel with
  | zero => intro j _; exact Nat.zero_le _
  | succ f ih =>
    intro j hj
    rw [up]
    split
    · exact Nat.zero_le _
    · next e =>
      obtain ⟨hp, _, hlt, _⟩ := s.parent_lt (lt_root hj e)
      have := ih (t.par j) hp
      have := lt_root hj e
      rw [List.length_cons]
      unfold root at *
      omega

theorem decode_encode {t : TF} (s : Struct t) {code : Nat} (hcode : code < t.T) :
    let leaf := walk t t.root (encode t code)
    leaf < t.n ∧ t.link leaf = code + t.n := by
  intro leaf
  obtain ⟨h1, h2⟩ := s.chC (code + t.n) (by omega) (by omega)
  have : leaf = t.par (code + t.n) := walk_up s t.n _ h1 (root_sub_le t _)
  rw [this]; exact ⟨h1, h2⟩

theorem up_bits (t : TF) : ∀ fuel j b, b ∈ up t j fuel → b < 2 := by
  intro fuel
  induction fuel with
  | zero => intro j b h; simp [up] at h
  | succ fuel ih =>
    intro j b h
    simp only [up] at h
    split at h
    · simp at h
    · rcases List.mem_cons.mp h with h | h
      · rw [h]; omega
      · exact ih _ _ h

theorem encode_bits (t : TF) (code : Nat) : ∀ b ∈ encode t code, b < 2 := by
  intro b hb
  unfold encode at hb
  rw [List.mem_reverse] at hb
  exact up_bits t _ _ b hb

theorem up_pos (t : TF) (j fuel : Nat) (hne : j ≠ t.root) (hf : 0 < fuel) : 0 < (up t j fuel).length := by
  cases fuel with
  | zero => omega
  | succ f => simp only [up, if_neg hne, List.length_cons]; omega

end TF
end Op2.Huff
