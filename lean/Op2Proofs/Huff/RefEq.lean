import Op2Proofs.Huff.Update
/-!
# The LZHUF-style reference update equals the modelled update on every well-formed tree
-/
namespace Op2.Huff
open TF

theorem ref_find_eq_scan (t : TF) (c : Nat) : ∀ fuel l, Ref.find t (t.cnt c) l fuel = scan t c l fuel := by
  intro fuel
  induction fuel with
  | zero => intro l; rfl
  | succ f ih => intro l; simp only [Ref.find, scan, ih]

theorem ref_exchange_eq_swap (t : TF) (c l : Nat) (h : c ≠ l) : Ref.exchange t c l = t.swap c l := by
  show ({ t with cnt := _, par := _, link := upd (upd t.link l (t.link c)) c (t.link l) } : TF) = _
  rw [upd_comm _ (Ne.symm h)]; rfl

/-- LZHUF looks at `c + 1` first and searches on from there only when the order is disturbed; the modelled scan starts
    at `c` -/
theorem scan_first (t : TF) (c : Nat) (hn : 0 < t.n) :
    scan t c c t.n = if t.cnt c > t.cnt (c + 1) then Ref.find t (t.cnt c) (c + 1) (t.n - 1) else c := by
  obtain ⟨k, hk⟩ : ∃ k, t.n = k + 1 := ⟨t.n - 1, by omega⟩
  rw [hk, scan, ref_find_eq_scan]; rfl

theorem ref_climb_eq : ∀ f (t : TF) (c : Nat), LoopInv (t.bump c) c → (t.bump c).root - c ≤ f →
    Ref.climb t c (f + 1) = climb (t.bump c) c f := by
  intro f t c L h
  refine climb_induction (motive := fun t' c f => ∀ t : TF, t' = t.bump c → Ref.climb t c (f + 1) = climb t' c f)
    ?_ ?_ f _ c L h t rfl
  · intro t' f _ t ht
    rw [climb_root, Ref.climb, ← ht, if_pos rfl]
  · intro t' c f b t1 X hb _ hcl ih t ht
    have hn : 0 < t'.n := by have := X.hcn; omega
    rw [hcl, ← ih t1 rfl, Ref.climb, ← ht, if_neg X.hc]
    rw [scan_first t' c hn] at hb
    split
    · next g =>
      rw [if_pos g] at hb
      have hne : c ≠ b := by
        have := (scan_char t' c (t'.n - 1) (c + 1)).1
        rw [← ref_find_eq_scan, ← hb] at this; omega
      show Ref.climb (Ref.exchange t' c _) ((Ref.exchange t' c _).par _) (f + 1) = _
      rw [← hb, ref_exchange_eq_swap _ _ _ hne, ← X.ht1]
    · next g =>
      rw [if_neg g] at hb
      have := X.ht1
      rw [hb, swap_self _ _ X.L.st X.hcn] at this
      rw [hb, this]

theorem ref_update_eq {t : TF} (w : WF t) {code : Nat} (hcode : code < t.T) : Ref.update t code = t.update code :=
  ref_climb_eq t.n t _ (w.start hcode).1 (root_sub_le _ _)

end Op2.Huff
