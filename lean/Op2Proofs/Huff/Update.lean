import Op2Proofs.Huff.Step
import Op2Proofs.Huff.Init
import Op2Proofs.ExceptChain
/-! An update keeps the tree well formed: the loop invariant holds when the loop is entered, is `WF` at the root, and is
carried by every round (`climb_induction`, which also serves the array refinement and the reference equivalence). -/
namespace Op2.Huff
namespace TF

theorem LoopInv.toWF {t : TF} (L : LoopInv t t.root) : WF t where
  st := L.st
  pos i hi := by have := L.pos i hi; have := L.cnt_eq i; omega
  sorted i hi := by
    have := L.sorted i hi
    have := L.cnt_eq (i + 1)
    rw [cntm_of_ne t (show i ≠ t.root by unfold root; omega)] at *
    omega
  sums i hi hl := by
    have := L.sums i hi hl
    rwa [if_neg (fun h => h.1 rfl)] at this

theorem WF.start {t : TF} (w : WF t) {code : Nat} (hcode : code < t.T) :
    let c := t.par (code + t.n)
    LoopInv (t.bump c) c ∧ c ≠ t.root := by
  intro c
  obtain ⟨hcn, hlc⟩ : c < t.n ∧ t.link c = code + t.n := w.st.chC (code + t.n) (by omega) (by omega)
  refine ⟨LoopInv.intro t.cnt (bump_struct w.st c) hcn (bump_cnt t c) w.pos w.sorted fun i hi hl => ?_, ?_⟩
  · -- `c` is a leaf, so no inner node is `c`
    have hic : i ≠ c := fun e => by rw [e] at hl; exact absurd (hlc ▸ hl : code + t.n < t.n) (by omega)
    rw [if_neg hic]; exact w.sums i hi hl
  · intro e
    have := w.st.rootInner
    rw [← e, hlc] at this
    omega

theorem climb_root (t : TF) (fuel : Nat) : climb t t.root fuel = t := by
  cases fuel with
  | zero => rfl
  | succ f => rw [climb, if_pos rfl]

theorem climb_succ (t : TF) {c : Nat} (h : c ≠ t.root) (fuel : Nat) :
    climb t c (fuel + 1) =
      climb ((t.swap c (scan t c c t.n)).bump ((t.swap c (scan t c c t.n)).par (scan t c c t.n)))
        ((t.swap c (scan t c c t.n)).par (scan t c c t.n)) fuel := by
  rw [climb, if_neg h]

theorem climb_induction {motive : TF → Nat → Nat → Prop}
    (stop : ∀ t fuel, LoopInv t t.root → motive t t.root fuel)
    (step : ∀ t c fuel b t1, StepCtx t c b t1 → b = scan t c c t.n → LoopInv (t1.bump (t1.par b)) (t1.par b) →
      climb t c (fuel + 1) = climb (t1.bump (t1.par b)) (t1.par b) fuel →
      motive (t1.bump (t1.par b)) (t1.par b) fuel → motive t c (fuel + 1)) :
    ∀ fuel t c, LoopInv t c → t.root - c ≤ fuel → motive t c fuel := by
  intro fuel
  induction fuel with
  | zero =>
    intro t c L h
    have : c = t.root := by have := L.hc; unfold root at *; omega
    rw [this] at L ⊢; exact stop t 0 L
  | succ fuel ih =>
    intro t c L h
    by_cases e : c = t.root
    · rw [e] at L ⊢; exact stop t _ L
    · obtain ⟨L', hlt⟩ := step_inv L e
      exact step t c fuel _ _ (step_ctx L e) rfl L' (climb_succ t e fuel) (ih _ _ L' (by show t.root - _ ≤ fuel; omega))

theorem climb_wf : ∀ fuel (t : TF) (c : Nat), LoopInv t c → t.root - c ≤ fuel → WF (climb t c fuel) :=
  climb_induction (motive := fun t c fuel => WF (climb t c fuel))
    (fun t fuel L => by rw [climb_root]; exact L.toWF)
    (fun _ _ _ _ _ _ _ _ hcl ih => by rw [hcl]; exact ih)

theorem update_wf {t : TF} (w : WF t) {code : Nat} (hcode : code < t.T) : WF (t.update code) :=
  climb_wf t.n _ _ (w.start hcode).1 (root_sub_le _ _)

theorem climb_T : ∀ fuel (t : TF) (c : Nat), (climb t c fuel).T = t.T := by
  intro fuel
  induction fuel with
  | zero => intro t c; rfl
  | succ fuel ih =>
    intro t c
    rw [climb]; split
    · rfl
    · rw [ih]; rfl

theorem update_T (t : TF) (code : Nat) : (t.update code).T = t.T := climb_T _ _ _

theorem update_root (t : TF) (code : Nat) : (t.update code).root = t.root := by unfold root n; rw [update_T]

theorem reachable_wf {T : Nat} (hT : 2 ≤ T) (codes : List Nat) (h : ∀ c ∈ codes, c < T) :
    WF (codes.foldl update (init T)) := by
  suffices ∀ t : TF, WF t → t.T = T → WF (codes.foldl update t) from this _ (init_wf hT) rfl
  induction codes with
  | nil => intro t w _; exact w
  | cons c cs ih =>
    intro t w e
    exact ih (fun x hx => h x (List.mem_cons_of_mem _ hx)) _
      (update_wf w (e ▸ h c List.mem_cons_self)) ((update_T t c).trans e)

/-- nothing is ever swapped with the root -/
theorem climb_root_cnt : ∀ fuel (t : TF) (c : Nat), LoopInv t c → t.root - c ≤ fuel →
    (climb t c fuel).cnt t.root = t.cnt t.root + (if c = t.root then 0 else 1) :=
  climb_induction (motive := fun t c fuel => (climb t c fuel).cnt t.root = t.cnt t.root + (if c = t.root then 0 else 1))
    (fun t fuel _ => by rw [climb_root, if_pos rfl]; rfl)
    (fun t c fuel b t1 X _ _ hcl ih => by
      have hr : t1.root = t.root := by rw [X.ht1]; rfl
      have hb' := X.hb'
      have := X.hb1
      -- the round adds one at `par b`, the rest of the climb one unless `par b` is the root already
      rw [hcl, if_neg X.hc, ← hr, ← bump_root t1 (t1.par b), ih, bump_cnt, bump_root, X.cnt1, hr,
        tr_of_gt (by unfold root; omega) (by unfold root; omega)]
      by_cases e : t1.par b = t.root
      · rw [if_pos e, if_pos e.symm]
      · rw [if_neg e, if_neg (Ne.symm e)])

theorem update_root_cnt {t : TF} (w : WF t) {code : Nat} (hcode : code < t.T) :
    (t.update code).cnt t.root = t.cnt t.root + 1 := by
  obtain ⟨L, hne⟩ := w.start hcode
  have := climb_root_cnt t.n _ _ L (root_sub_le _ _)
  rw [bump_root, bump_cnt, if_neg hne, if_neg (Ne.symm hne)] at this
  exact this

theorem updateChecked_eq_ok {t t' : TF} {code : Nat} :
    updateChecked t code = .ok t' ↔ code < t.T ∧ t.cnt t.root < maxCount ∧ t' = t.update code := by
  simp only [updateChecked, Except.refuse_eq_ok, Except.ok.injEq, Nat.not_le, eq_comm (a := t')]

theorem WF.cnt_le_root {t : TF} (w : WF t) (i : Nat) (hi : i < t.n) : t.cnt i ≤ t.cnt t.root :=
  mono_of_sorted w.sorted (show i ≤ t.root by unfold root; omega) (root_lt w.st.hT)

end TF
end Op2.Huff
