import Op2Proofs.Huff.Struct
/-! `swap a b` relabels the nodes by the transposition `σ = tr a b`: `link' = link ∘ σ`, `cnt' = cnt ∘ σ` and, on every
slot but the root, `par' = σ ∘ par`; the structure invariant carries over because `σ ∘ σ = id`. -/
namespace Op2.Huff

theorem upd_same (f : Nat → Nat) (i v : Nat) : upd f i v i = v := if_pos rfl
theorem upd_ne (f : Nat → Nat) {i j : Nat} (v : Nat) (h : j ≠ i) : upd f i v j = f j := if_neg h

theorem upd_eq_self {f : Nat → Nat} {i v : Nat} (h : f i = v) : upd f i v = f := by
  funext j; rw [upd_apply]; split
  · subst_vars; rfl
  · rfl

theorem upd_comm (f : Nat → Nat) {i j : Nat} (h : i ≠ j) (v w : Nat) :
    upd (upd f i v) j w = upd (upd f j w) i v := by
  funext k
  simp only [upd_apply]
  split
  · next e => rw [if_neg (e ▸ Ne.symm h)]
  · rfl

theorem upd_if_apply (c : Prop) [Decidable c] (f : Nat → Nat) (i v j : Nat) :
    (if c then upd f i v else f) j = if c ∧ j = i then v else f j := by
  by_cases h : c
  · rw [if_pos h, upd_apply]; simp only [h, true_and]
  · rw [if_neg h, if_neg (fun h' => h h'.1)]

def tr (a b i : Nat) : Nat := if i = a then b else if i = b then a else i

theorem tr_left (a b : Nat) : tr a b a = b := if_pos rfl

theorem tr_right (a b : Nat) : tr a b b = a := by
  unfold tr; split
  · next h => exact h
  · exact if_pos rfl

theorem tr_of_ne {a b i : Nat} (h1 : i ≠ a) (h2 : i ≠ b) : tr a b i = i := by
  rw [tr, if_neg h1, if_neg h2]

theorem tr_of_gt {a b i : Nat} (h1 : a < i) (h2 : b < i) : tr a b i = i :=
  tr_of_ne (Nat.ne_of_gt h1) (Nat.ne_of_gt h2)

theorem tr_tr (a b i : Nat) : tr a b (tr a b i) = i := by
  by_cases h1 : i = a
  · rw [h1, tr_left, tr_right]
  · by_cases h2 : i = b
    · rw [h2, tr_right, tr_left]
    · rw [tr_of_ne h1 h2, tr_of_ne h1 h2]

theorem tr_eq_iff {a b i k : Nat} : tr a b i = k ↔ i = tr a b k :=
  ⟨fun h => by rw [← h, tr_tr], fun h => by rw [h, tr_tr]⟩

theorem tr_lt {a b i k : Nat} (ha : a < k) (hb : b < k) (hi : i < k) : tr a b i < k := by
  unfold tr; split
  · exact hb
  · split
    · exact ha
    · exact hi

theorem upd_upd_tr (f : Nat → Nat) (a b i : Nat) : upd (upd f a (f b)) b (f a) i = f (tr a b i) := by
  by_cases h2 : i = b
  · rw [h2, upd_same, tr_right]
  · rw [upd_ne _ _ h2]
    by_cases h1 : i = a
    · rw [h1, upd_same, tr_left]
    · rw [upd_ne _ _ h1, tr_of_ne h1 h2]

namespace TF

theorem bump_link (t : TF) (p : Nat) : (t.bump p).link = t.link := rfl
theorem bump_par (t : TF) (p : Nat) : (t.bump p).par = t.par := rfl
theorem bump_T (t : TF) (p : Nat) : (t.bump p).T = t.T := rfl
theorem bump_n (t : TF) (p : Nat) : (t.bump p).n = t.n := rfl
theorem bump_root (t : TF) (p : Nat) : (t.bump p).root = t.root := rfl

theorem bump_cnt (t : TF) (p i : Nat) : (t.bump p).cnt i = t.cnt i + if i = p then 1 else 0 := by
  show upd t.cnt p (t.cnt p + 1) i = _
  rw [upd_apply]; split
  · next h => rw [h]
  · rfl

theorem bump_struct {t : TF} (s : Struct t) (p : Nat) : Struct (t.bump p) :=
  ⟨s.hT, s.rng, s.parL, s.parR, s.chL, s.chR, s.chC, s.rootInner⟩

theorem swap_T (t : TF) (a b : Nat) : (t.swap a b).T = t.T := rfl
theorem swap_n (t : TF) (a b : Nat) : (t.swap a b).n = t.n := rfl
theorem swap_root (t : TF) (a b : Nat) : (t.swap a b).root = t.root := rfl
theorem swap_link (t : TF) (a b i : Nat) : (t.swap a b).link i = t.link (tr a b i) := upd_upd_tr t.link a b i
theorem swap_cnt (t : TF) (a b i : Nat) : (t.swap a b).cnt i = t.cnt (tr a b i) := upd_upd_tr t.cnt a b i

theorem swap_par (t : TF) (a b j : Nat) :
    (t.swap a b).par j = if Child t b j then a else if Child t a j then b else t.par j := by
  simp only [swap, upd_if_apply, upd_apply, Child]
  grind

theorem swap_child (t : TF) (a b i j : Nat) : Child (t.swap a b) i j ↔ Child t (tr a b i) j := by
  unfold Child
  rw [swap_link, swap_n]

/-- what hangs below `b` goes to `a` and conversely, and in a well-formed tree that is to say whose parent is `b`
    goes to `a` and conversely -/
theorem Struct.swap_par {t : TF} (s : Struct t) {a b j : Nat} (ha : a < t.n) (hb : b < t.n)
    (hj : j < t.n + t.T) (hr : j ≠ t.root) : (t.swap a b).par j = tr a b (t.par j) := by
  have ia := s.par_eq_iff ha hj hr
  have ib := s.par_eq_iff hb hj hr
  rw [TF.swap_par]; unfold tr
  grind

theorem swap_struct' (t : TF) (a b : Nat) (s : Struct t) (hab : a ≤ b) (hb : b < t.n - 1)
    (hbelow : t.link b < t.n → t.link b + 1 < a) : Struct (t.swap a b) := by
  have hbn : b < t.n := by omega
  have ha : a < t.n := by omega
  refine Struct.of_child s.hT ?_ ?_ ?_ ?_
  · intro i (hi : i < t.n)
    rw [swap_link]
    show (_ < t.n - 1 ∧ _) ∨ (t.n ≤ _ ∧ _ < t.n + t.T)
    have ri := s.rng _ (tr_lt ha hbn hi)
    unfold tr at ri ⊢
    -- the link now at `a` is `b`'s, the link now at `b` is `a`'s: both lie below their new position
    split
    · next h => rw [if_pos h] at ri; exact ri.imp (fun r => ⟨r.1, r.2.1, by have := hbelow (by omega); omega⟩) id
    · next h =>
      rw [if_neg h] at ri
      split
      · next h2 => rw [if_pos h2] at ri; exact ri.imp (fun r => ⟨r.1, r.2.1, by omega⟩) id
      · next h2 => rw [if_neg h2] at ri; exact ri
  · intro j hj hr
    rw [s.swap_par ha hbn hj hr]
    exact tr_lt ha hbn (s.par_lt hj hr)
  · intro i j (hi : i < t.n) hj hr
    -- `σ (par j) = i ↔ par j = σ i ↔ Child t (σ i) j`, and the link at `i` is now that of `σ i`
    rw [s.swap_par ha hbn hj hr, tr_eq_iff, swap_child]
    exact s.par_eq_iff (tr_lt ha hbn hi) hj hr
  · show (t.swap a b).link t.root < t.n
    rw [swap_link, tr_of_ne (by unfold root; omega) (by unfold root; omega)]
    exact s.rootInner

theorem swap_struct (t : TF) (a b : Nat) (s : Struct t) (hab : a < b) (hb : b < t.n - 1)
    (hbelow : t.link b < t.n → t.link b + 1 < a) : Struct (t.swap a b) :=
  swap_struct' t a b s (Nat.le_of_lt hab) hb hbelow

theorem swap_self (t : TF) (a : Nat) (s : Struct t) (ha : a < t.n) : t.swap a a = t := by
  have pL := s.parL a ha
  have pR := s.parR a ha
  have hp : (t.swap a a).par = t.par := by
    show (if t.link a < t.n then upd _ _ _ else _) = _
    split
    · next h => rw [upd_eq_self pL, upd_eq_self (pR h), upd_eq_self pL, upd_eq_self (pR h)]
    · rw [upd_eq_self pL, upd_eq_self pL]
  show ({ t with cnt := upd (upd t.cnt a (t.cnt a)) a (t.cnt a), par := (t.swap a a).par,
                 link := upd (upd t.link a (t.link a)) a (t.link a) } : TF) = t
  rw [hp, upd_eq_self rfl, upd_eq_self rfl, upd_eq_self rfl, upd_eq_self rfl]

end TF
end Op2.Huff
