import Op2Proofs.Huff.Swap
/-! `LoopInv t c` holds at the head of the climb loop, the count of `c` already incremented.  It is used through the
counts `m = cntm t c` before that increment: `m` is positive and sorted and every inner node is the sum of its children,
except that the children of `c` are one ahead (`LoopInv.intro`, `LoopInv.sums_m`). -/
namespace Op2.Huff
namespace TF

theorem cntm_self (t : TF) (c : Nat) : t.cntm c c = t.cnt c - 1 := if_pos rfl
theorem cntm_of_ne (t : TF) {c j : Nat} (h : j ≠ c) : t.cntm c j = t.cnt j := if_neg h

theorem cnt_eq_cntm {t : TF} {c : Nat} (h : 1 ≤ t.cnt c) (x : Nat) :
    t.cnt x = t.cntm c x + if x = c then 1 else 0 := by
  unfold cntm; split
  · next e => rw [e]; omega
  · rfl

theorem cntm_eq {t : TF} {c : Nat} {m : Nat → Nat} (h : ∀ x, t.cnt x = m x + if x = c then 1 else 0) (x : Nat) :
    t.cntm c x = m x := by
  unfold cntm; rw [h x]; split <;> rfl

theorem Struct.sums_iff {t : TF} (s : Struct t) {c : Nat} (hc : c < t.n) {m : Nat → Nat}
    (hcnt : ∀ x, t.cnt x = m x + if x = c then 1 else 0) {i : Nat} (hi : i < t.n) (hl : t.link i < t.n) :
    ((if c ≠ t.root ∧ i = t.par c then t.cnt i + 1 else t.cnt i) = t.cnt (t.link i) + t.cnt (t.link i + 1)) ↔
      m i + (if i = c then 1 else 0) = m (t.link i) + m (t.link i + 1) := by
  rw [hcnt i, hcnt (t.link i), hcnt (t.link i + 1)]
  by_cases hr : c = t.root
  · obtain ⟨h1, h2⟩ := s.root_not_child hi hl
    rw [if_neg (fun h => h.1 hr), hr, if_neg h1, if_neg h2]; exact Iff.rfl
  · have hs := s.ind_sum hi hl (lt_root hc hr)
    by_cases e : i = t.par c
    · rw [if_pos ⟨hr, e⟩]; rw [if_pos e] at hs; omega
    · rw [if_neg (fun h => e h.2)]; rw [if_neg e] at hs; omega

theorem LoopInv.intro {t : TF} {c : Nat} (m : Nat → Nat) (s : Struct t) (hc : c < t.n)
    (hcnt : ∀ x, t.cnt x = m x + if x = c then 1 else 0)
    (pos : ∀ i, i < t.n → 1 ≤ m i) (sorted : ∀ i, i + 1 < t.n → m i ≤ m (i + 1))
    (sums : ∀ i, i < t.n → t.link i < t.n → m i + (if i = c then 1 else 0) = m (t.link i) + m (t.link i + 1)) :
    LoopInv t c where
  st := s
  hc := hc
  pos i hi := by rw [cntm_eq hcnt]; exact pos i hi
  cpos := by have := hcnt c; have := pos c hc; rw [if_pos rfl] at *; omega
  sorted i hi := by rw [cntm_eq hcnt, cntm_eq hcnt]; exact sorted i hi
  sums i hi hl := (s.sums_iff hc hcnt hi hl).mpr (sums i hi hl)

namespace LoopInv
variable {t : TF} {c : Nat} (L : LoopInv t c)
include L

theorem cnt_eq (x : Nat) : t.cnt x = t.cntm c x + if x = c then 1 else 0 :=
  cnt_eq_cntm (by have := L.cpos; omega) x

theorem sums_m {k : Nat} (hk : k < t.n) (hl : t.link k < t.n) :
    t.cntm c k + (if k = c then 1 else 0) = t.cntm c (t.link k) + t.cntm c (t.link k + 1) :=
  (L.st.sums_iff L.hc L.cnt_eq hk hl).mp (L.sums k hk hl)

theorem mono {i j : Nat} (hij : i ≤ j) (hj : j < t.n) : t.cntm c i ≤ t.cntm c j :=
  mono_of_sorted L.sorted hij hj

theorem parent_ge (hc : c ≠ t.root) : t.cnt c ≤ t.cnt (t.par c) := by
  obtain ⟨h1, h2, h3, h4⟩ := L.st.parent_lt (lt_root L.hc hc)
  have hs := L.sums_m h1 h2
  have r := L.st.rng _ h1
  have p1 := L.pos _ (show t.link (t.par c) < t.n by omega)
  have p2 := L.pos (t.link (t.par c) + 1) (by omega)
  rw [if_neg (by omega)] at hs
  rw [L.cnt_eq c, L.cnt_eq (t.par c), if_pos rfl, if_neg (by omega)]
  rcases h4 with e | e
  · rw [e] at hs p2; omega
  · rw [e] at hs; omega

end LoopInv

theorem scan_char (t : TF) (c : Nat) : ∀ fuel b,
    b ≤ scan t c b fuel ∧ scan t c b fuel ≤ b + fuel ∧
    (∀ j, b < j → j ≤ scan t c b fuel → t.cnt j < t.cnt c) ∧
    (scan t c b fuel < b + fuel → t.cnt c ≤ t.cnt (scan t c b fuel + 1)) := by
  intro fuel
  induction fuel with
  | zero => intro b; exact ⟨Nat.le_refl _, Nat.le_refl _, fun j h1 h2 => absurd h2 (Nat.not_le.mpr h1), fun h => absurd h (Nat.lt_irrefl _)⟩
  | succ fuel ih =>
    intro b
    rw [scan]
    split
    · next hgt =>
      obtain ⟨h1, h2, h3, h4⟩ := ih (b + 1)
      refine ⟨by omega, by omega, fun j hj1 hj2 => ?_, fun h => h4 (by omega)⟩
      by_cases e : j = b + 1
      · rw [e]; exact hgt
      · exact h3 j (by omega) hj2
    · next hle => exact ⟨Nat.le_refl _, by omega, fun j h1 h2 => absurd h2 (Nat.not_le.mpr h1), fun _ => Nat.not_lt.mp hle⟩

theorem scan_spec {t : TF} {c : Nat} (L : LoopInv t c) (hc : c ≠ t.root) :
    ∀ fuel b, c ≤ b → b < t.par c → t.par c ≤ b + fuel →
      (∀ j, c < j → j ≤ b → t.cnt j + 1 = t.cnt c) →
      let r := scan t c b fuel
      b ≤ r ∧ r < t.par c ∧ (∀ j, c < j → j ≤ r → t.cnt j + 1 = t.cnt c) ∧ t.cnt c ≤ t.cnt (r + 1) := by
  intro fuel b h1 h2 h3 h4
  obtain ⟨s1, s2, s3, s4⟩ := scan_char t c fuel b
  have hq := (L.st.parent_lt (lt_root L.hc hc)).1
  -- the scan stops below the parent, whose count is not smaller
  have hr : scan t c b fuel < t.par c :=
    Nat.lt_of_not_le fun h => Nat.lt_irrefl _ (Nat.lt_of_lt_of_le (s3 _ h2 h) (L.parent_ge hc))
  refine ⟨s1, hr, fun j hj1 hj2 => ?_, s4 (by omega)⟩
  by_cases e : j ≤ b
  · exact h4 j hj1 e
  · -- sorted below, strictly smaller than `cnt c` above
    have := s3 j (by omega) hj2
    have := L.mono (Nat.le_of_lt hj1) (by omega)
    rw [cntm_self, cntm_of_ne t (by omega)] at this
    omega

/-- each child's count is smaller than the leader's, which equals that of `c`, and counts are sorted -/
theorem LoopInv.leader_children_below {t : TF} {c b : Nat} (L : LoopInv t c) (hc : c ≠ t.root)
    (hcb : c < b) (hbq : b < t.par c) (hv : t.cnt b + 1 = t.cnt c) (hl : t.link b < t.n) :
    t.link b + 1 < c := by
  have hq := (L.st.parent_lt (lt_root L.hc hc)).1
  have hbn : b < t.n := by omega
  have rb := L.st.rng b hbn
  have hs := L.sums_m hbn hl
  have p1 := L.pos (t.link b) (by omega)
  rw [if_neg (by omega), cntm_of_ne t (by omega)] at hs
  refine Nat.lt_of_not_le fun hge => ?_
  have := L.mono hge (by omega)
  rw [cntm_self] at this
  omega

/-! `StepCtx t c b t1`, what `scan` establishes (`step_ctx`): `c` is not the root and `b` is the leader of `c`'s block, below
`par c` (`hblock`: everything in `(c, b]` counts `cnt c − 1`; `hstop`: `b + 1` does not); `t1` is the tree after the
exchange. -/

structure StepCtx (t : TF) (c b : Nat) (t1 : TF) : Prop where
  L : LoopInv t c
  hc : c ≠ t.root
  hb1 : c ≤ b
  hbq : b < t.par c
  hblock : ∀ j, c < j → j ≤ b → t.cnt j + 1 = t.cnt c
  hstop : t.cnt c ≤ t.cnt (b + 1)
  ht1 : t1 = t.swap c b

theorem step_ctx {t : TF} {c : Nat} (L : LoopInv t c) (hc : c ≠ t.root) :
    StepCtx t c (scan t c c t.n) (t.swap c (scan t c c t.n)) := by
  obtain ⟨hq, _, hcq, _⟩ := L.st.parent_lt (lt_root L.hc hc)
  obtain ⟨hb1, hbq, hblock, hstop⟩ := scan_spec L hc t.n c (Nat.le_refl _) hcq (by omega)
    (fun j h1 h2 => absurd h2 (Nat.not_le.mpr h1))
  exact ⟨L, hc, hb1, hbq, hblock, hstop, rfl⟩

namespace StepCtx
variable {t : TF} {c b : Nat} {t1 : TF} (X : StepCtx t c b t1)
include X

theorem hcn : c < t.n := X.L.hc
theorem hc' : c < t.n - 1 := lt_root X.L.hc X.hc
theorem hq : t.par c < t.n := (X.L.st.parent_lt X.hc').1
theorem hcq : c < t.par c := (X.L.st.parent_lt X.hc').2.2.1
theorem hb' : b < t.n - 1 := by have := X.hq; have := X.hbq; omega
theorem hbn : b < t.n := Nat.lt_of_lt_of_le X.hb' (Nat.sub_le _ _)

theorem block : t.cntm c b = t.cntm c c := by
  by_cases e : b = c
  · rw [e]
  · have := X.hblock b (by have := X.hb1; omega) (Nat.le_refl _)
    rw [cntm_self, cntm_of_ne t e]; omega

theorem st1 : Struct t1 := by
  rw [X.ht1]
  refine swap_struct' t c b X.L.st X.hb1 X.hb' fun hl => ?_
  by_cases e : b = c
  · have := X.L.st.rng c X.hcn; rw [e] at hl ⊢; omega
  · have hcb : c < b := by have := X.hb1; omega
    exact X.L.leader_children_below X.hc hcb X.hbq (X.hblock b hcb (Nat.le_refl _)) hl

theorem cnt1 (i : Nat) : t1.cnt i = t.cnt (tr c b i) := by rw [X.ht1, swap_cnt]

theorem cntm_tr (i : Nat) : t.cntm c (tr c b i) = t.cntm c i := by
  unfold tr; split
  · next h => rw [h, X.block]
  · split
    · next h => rw [h, X.block]
    · rfl

theorem cnt1_eq_cntm (j : Nat) : t1.cnt j = t.cntm c j + (if j = b then 1 else 0) := by
  rw [X.cnt1, X.L.cnt_eq, X.cntm_tr]
  simp only [tr_eq_iff, tr_left]

/-- the leader `b` carries the same `m` as `c`, so the exchange leaves `m` as it is and moves the pending increment, and
    with it the invariant, to `b`: position `i` holds the node that sat at `tr c b i` -/
theorem inv1 : LoopInv t1 b := by
  have h := X.ht1
  subst h
  refine LoopInv.intro (t.cntm c) X.st1 X.hbn X.cnt1_eq_cntm X.L.pos X.L.sorted fun i hi hl => ?_
  rw [swap_link] at hl ⊢
  have := X.L.sums_m (tr_lt X.hcn X.hbn hi) hl
  rw [X.cntm_tr] at this
  simpa only [tr_eq_iff, tr_left] using this

end StepCtx

/-- a node that is the last of its block keeps its increment and hands one to its parent: the children-sum law of
    `LoopInv`, short by one at `par c`, is the law for the counts before the increment at `par c` -/
theorem LoopInv.advance {t : TF} {c : Nat} (L : LoopInv t c) (hc : c ≠ t.root) (hstop : t.cnt c ≤ t.cnt (c + 1)) :
    LoopInv (t.bump (t.par c)) (t.par c) := by
  refine LoopInv.intro t.cnt (bump_struct L.st _) (L.st.parent_lt (lt_root L.hc hc)).1 (bump_cnt t _)
    (fun i hi => ?_) (fun i hi => ?_) (fun i hi hl => ?_)
  · rw [L.cnt_eq]; exact Nat.le_trans (L.pos i hi) (Nat.le_add_right _ _)
  · by_cases e : i = c
    · rw [e]; exact hstop
    · rw [L.cnt_eq i, if_neg e, L.cnt_eq (i + 1)]
      exact Nat.le_trans (L.sorted i hi) (Nat.le_add_right _ _)
  · have := L.sums i hi hl
    by_cases e : i = t.par c
    · rw [if_pos ⟨hc, e⟩] at this; rw [if_pos e]; exact this
    · rw [if_neg (fun h => e h.2)] at this; rw [if_neg e]; exact this

theorem step_inv {t : TF} {c : Nat} (L : LoopInv t c) (hc : c ≠ t.root) :
    let b := scan t c c t.n
    let t1 := t.swap c b
    let p := t1.par b
    LoopInv (t1.bump p) p ∧ c < p := by
  intro b t1 p
  have X : StepCtx t c b t1 := step_ctx L hc
  -- `b` is the last of its block also after the exchange
  have hstop : t1.cnt b ≤ t1.cnt (b + 1) := by
    rw [X.cnt1, X.cnt1, tr_right, tr_of_gt (Nat.lt_succ_of_le X.hb1) (Nat.lt_succ_self b)]; exact X.hstop
  exact ⟨X.inv1.advance (Nat.ne_of_lt X.hb') hstop, Nat.lt_of_le_of_lt X.hb1 (X.st1.parent_lt X.hb').2.2.1⟩

end TF
end Op2.Huff
