import Op2Proofs.Huff.Struct
/-!
# The constructor's tree is well formed, and its root counts the symbols (C15)
-/
namespace Op2.Huff
namespace TF

theorem init_n (T : Nat) : (init T).n = 2 * T - 1 := rfl
theorem init_T (T : Nat) : (init T).T = T := rfl
theorem init_root (T : Nat) : (init T).root = 2 * T - 1 - 1 := rfl
theorem init_link (T i : Nat) : (init T).link i = if i < T then i + (2 * T - 1) else 2 * (i - T) := rfl
theorem init_par (T j : Nat) : (init T).par j = if j < 2 * T - 1 then j / 2 + T else j - (2 * T - 1) := rfl
theorem init_cnt (T i : Nat) : (init T).cnt i = cntI T i := rfl

theorem init_struct {T : Nat} (hT : 2 ≤ T) : Struct (init T) := by
  refine Struct.of_child hT ?_ ?_ ?_ ?_
  · intro i hi
    rw [init_n] at hi ⊢; rw [init_T, init_link]
    split
    · right; omega
    · left; omega
  · intro j hj hr
    rw [init_n, init_T] at hj; rw [init_root] at hr; rw [init_n, init_par]
    split <;> omega
  · intro i j hi hj hr
    rw [init_n] at hi; rw [init_n, init_T] at hj; rw [init_root] at hr
    unfold Child
    rw [init_n, init_par, init_link]
    split <;> split <;> omega
  · rw [init_root, init_n, init_link, if_neg (by omega)]; omega

theorem cntI_leaf {T i : Nat} (h : i < T) : cntI T i = 1 := by
  rw [cntI]; simp [h]

theorem cntI_inner {T i : Nat} (h1 : T ≤ i) (h2 : i < 2 * T - 1) :
    cntI T i = cntI T (2 * (i - T)) + cntI T (2 * (i - T) + 1) := by
  rw [cntI]
  have : ¬ i < T := by omega
  simp [this, h2]

/-- the `k`-th inner node merges the `k`-th pair of the queue -/
theorem cntI_node {T k : Nat} (hk : k + 1 < T) : cntI T (T + k) = cntI T (2 * k) + cntI T (2 * k + 1) := by
  have := cntI_inner (T := T) (i := T + k) (Nat.le_add_right _ _) (by omega)
  rwa [Nat.add_sub_cancel_left] at this

theorem cntI_sorted (T : Nat) : ∀ i, i + 1 < 2 * T - 1 → cntI T i ≤ cntI T (i + 1) := by
  intro i
  induction i using Nat.strongRecOn with
  | _ i ih =>
    intro hi
    by_cases h1 : i + 1 < T
    · rw [cntI_leaf (Nat.lt_of_succ_lt h1), cntI_leaf h1]; exact Nat.le_refl _
    · by_cases h2 : i < T
      · -- the last leaf and the first inner node, which merges two leaves
        rw [cntI_leaf h2, show i + 1 = T + 0 by omega, cntI_node (by omega), cntI_leaf (by omega)]
        exact Nat.le_add_right _ _
      · -- two neighbouring inner nodes merge two neighbouring pairs
        obtain ⟨k, rfl⟩ : ∃ k, i = T + k := ⟨i - T, by omega⟩
        rw [Nat.add_assoc, cntI_node (by omega), cntI_node (by omega)]
        rw [show 2 * (k + 1) = 2 * k + 2 from rfl]
        have s0 := ih (2 * k) (by omega) (by omega)
        have s1 : cntI T (2 * k + 1) ≤ cntI T (2 * k + 2) := ih (2 * k + 1) (by omega) (by omega)
        have s2 := ih (2 * k + 2) (by omega) (by omega)
        omega

theorem cntI_pos (T : Nat) (i : Nat) (hi : i < 2 * T - 1) : 1 ≤ cntI T i := by
  rw [← cntI_leaf (T := T) (i := 0) (by omega)]
  exact mono_of_sorted (cntI_sorted T) (Nat.zero_le i) hi

theorem init_wf {T : Nat} (hT : 2 ≤ T) : WF (init T) := by
  refine ⟨init_struct hT, ?_, ?_, ?_⟩
  · intro i hi; exact cntI_pos T i hi
  · intro i hi; exact cntI_sorted T i hi
  · intro i hi hl
    rw [init_n] at hi hl
    rw [init_link] at hl
    have h : ¬ i < T := by intro h; rw [if_pos h] at hl; omega
    rw [init_cnt, init_cnt, init_cnt, init_link, if_neg h]
    exact cntI_inner (by omega) hi

def sumFrom (f : Nat → Nat) (a : Nat) : Nat → Nat
  | 0 => 0
  | len + 1 => f a + sumFrom f (a + 1) len

theorem sumFrom_snoc (f : Nat → Nat) : ∀ len a, sumFrom f a (len + 1) = sumFrom f a len + f (a + len) := by
  intro len
  induction len with
  | zero => intro a; simp [sumFrom]
  | succ len ih =>
    intro a
    rw [sumFrom, ih (a + 1), sumFrom]
    have : a + 1 + len = a + (len + 1) := by omega
    rw [this]; omega

theorem sumFrom_const_one (f : Nat → Nat) : ∀ len a, (∀ j, a ≤ j → j < a + len → f j = 1) → sumFrom f a len = len := by
  intro len
  induction len with
  | zero => intro a _; rfl
  | succ len ih =>
    intro a h
    rw [sumFrom, h a (Nat.le_refl _) (by omega), ih (a + 1) (fun j h1 h2 => h j (by omega) (by omega))]
    omega

/-- the queue argument: after merging the first `k` pairs the `T - k` counts still waiting, those from `2 * k` on,
    sum to `T` -/
theorem init_queue_sum (T : Nat) : ∀ k len, k + len = T → 0 < len → sumFrom (cntI T) (2 * k) len = T := by
  intro k
  induction k with
  | zero => intro len h _; rw [← h, Nat.zero_add]; exact sumFrom_const_one _ _ _ (fun j _ h => cntI_leaf (by omega))
  | succ k ih =>
    intro len h hl
    obtain ⟨l, rfl⟩ : ∃ l, len = l + 1 := ⟨len - 1, by omega⟩
    -- the pair `2k, 2k+1` leaves at the front, its sum `cntI (T + k)` joins at the back
    have h0 := ih (l + 2) (by omega) (by omega)
    rw [sumFrom, sumFrom, show 2 * k + 1 + 1 = 2 * (k + 1) from rfl] at h0
    rw [sumFrom_snoc, show 2 * (k + 1) + l = T + k by omega, cntI_node (by omega)]
    omega

theorem init_root_cnt (T : Nat) (hT : 2 ≤ T) : (init T).cnt (init T).root = T := by
  have := init_queue_sum T (T - 1) 1 (by omega) Nat.one_pos
  rw [sumFrom, sumFrom, Nat.add_zero] at this
  rw [init_cnt, init_root, show 2 * T - 1 - 1 = 2 * (T - 1) by omega]
  exact this
end TF
end Op2.Huff
