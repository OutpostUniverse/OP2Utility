import Op2Model.Parser
import Op2Proofs.Codec
/-!
# Sequential parsers: forward from an input to the result (`Local`, `Reads`), back from a success (`Yields`)

`Local` and `Yields` are closed under `pure / fail / take / bind / map / guard / many` (`Reads` under all of these but
`fail`), and under `if`/`match` by `split`.  `Ensures` and `Writes` are the value-only and bytes-only forms of `Yields`.
-/
namespace Op2.Parser
open Op2

/-- `p` reads `s` back as `a`, whatever follows -/
def Reads {α : Type} (p : Parser α) (s : Bytes) (a : α) : Prop := ∀ rest, p (s ++ rest) = .ok (a, rest)

theorem reads_take (s : Bytes) : Reads (take s.length) s s := by
  intro rest; simp [take]

theorem reads_take' (s : Bytes) (k : Nat) (h : s.length = k) : Reads (take k) s s := by
  subst h; exact reads_take s

theorem reads_pure {α : Type} (a : α) : Reads (pure a) [] a := by intro rest; rfl

theorem reads_bind {α β : Type} {p : Parser α} {f : α → Parser β} {s1 s2 : Bytes} {a : α} {b : β}
    (h1 : Reads p s1 a) (h2 : Reads (f a) s2 b) : Reads (bind p f) (s1 ++ s2) b := by
  intro rest
  show Parser.bind p f (s1 ++ s2 ++ rest) = _
  unfold Parser.bind
  rw [List.append_assoc, h1 (s2 ++ rest)]
  exact h2 rest

theorem reads_map {α β : Type} {p : Parser α} {s : Bytes} {a : α} (f : α → β) (h : Reads p s a) :
    Reads (map p f) s (f a) := by
  have := reads_bind (f := fun a => Parser.pure (f a)) h (reads_pure (f a))
  simpa [map] using this

theorem reads_guard_true (e : Err) : Reads (guard true e) [] () := reads_pure ()

theorem reads_u8 (v : Nat) (h : v < 256) : Reads u8 (encU8 v) v := by
  have := reads_map (fun b : Bytes => (b.headD 0).toNat) (reads_take' (encU8 v) 1 rfl)
  rwa [show ((encU8 v).headD 0).toNat = v from UInt8.toNat_ofNat_of_lt' h] at this

theorem reads_u16 (v : Nat) (h : v < 65536) : Reads u16 (encU16 v) v := by
  have := reads_map decU16 (reads_take' (encU16 v) 2 rfl)
  rwa [Codec.decU16_encU16' v h] at this

theorem reads_u32 (v : Nat) (h : v < 4294967296) : Reads u32 (encU32 v) v := by
  have := reads_map decU32 (reads_take' (encU32 v) 4 rfl)
  rwa [Codec.decU32_encU32' v h] at this

theorem reads_many_of {α : Type} {p : Parser α} {enc : α → Bytes} {P : α → Prop} (hp : ∀ a, P a → Reads p (enc a) a) :
    ∀ (as : List α), (∀ a ∈ as, P a) → Reads (many p as.length) (as.flatMap enc) as
  | [], _ => reads_pure []
  | a :: as, h => by
    have ht := reads_many_of hp as (fun x hx => h x (by simp [hx]))
    have := reads_bind (f := fun a => Parser.bind (many p as.length) (fun as => Parser.pure (a :: as))) (hp a (h a (by simp)))
      (reads_bind (f := fun as => Parser.pure (a :: as)) ht (reads_pure (a :: as)))
    simpa [many, List.flatMap_cons] using this

theorem reads_many {α : Type} {p : Parser α} {enc : α → Bytes} (hp : ∀ a, Reads p (enc a) a) (as : List α) :
    Reads (many p as.length) (as.flatMap enc) as :=
  reads_many_of (P := fun _ => True) (fun a _ => hp a) as (fun _ _ => trivial)

theorem Reads.run {α : Type} {p : Parser α} {s : Bytes} {a : α} (h : Reads p s a) (rest : Bytes) :
    Parser.run p (s ++ rest) = .ok (a, s.length) := by
  unfold Parser.run; rw [h rest]; simp

theorem bind_step {α β : Type} {p : Parser α} {f : α → Parser β} {xs : Bytes} {a : α} {r1 : Bytes}
    (h : p xs = .ok (a, r1)) : Parser.bind p f xs = f a r1 := by
  unfold Parser.bind; rw [h]

theorem bind_err {α β : Type} {p : Parser α} {f : α → Parser β} {xs : Bytes} {e : Err}
    (h : p xs = .error e) : Parser.bind p f xs = .error e := by
  unfold Parser.bind; rw [h]

/-- with it `Reads` of a composite parser is `intro rest; unfold …; rw [h₁.bind_eq, h₂.bind_eq, …]; rfl` -/
theorem Reads.bind_eq {α β : Type} {p : Parser α} {s : Bytes} {a : α} (h : Reads p s a) (f : α → Parser β) (t : Bytes) :
    bind p f (s ++ t) = f a t := bind_step (h t)

theorem guard_false {e : Err} {xs : Bytes} : Parser.guard false e xs = .error e := rfl
theorem guard_true {e : Err} {xs : Bytes} : Parser.guard true e xs = .ok ((), xs) := rfl

theorem bind_guard {β : Type} {c : Bool} (h : c = true) (e : Err) (f : Unit → Parser β) (t : Bytes) :
    bind (guard c e) f t = f () t := by
  subst h; rfl

theorem bind_guard_false {β : Type} {c : Bool} {e : Err} (hc : c = false) (f : Unit → Parser β) (xs : Bytes) :
    bind (guard c e) f xs = .error e := by
  subst hc; rfl

theorem bind_eq_ok {α β : Type} {p : Parser α} {f : α → Parser β} {xs : Bytes} {b : β} {r : Bytes} :
    bind p f xs = .ok (b, r) ↔ ∃ a r1, p xs = .ok (a, r1) ∧ f a r1 = .ok (b, r) := by
  unfold bind
  cases p xs with
  | error e => exact ⟨fun h => (nomatch h), fun ⟨_, _, h1, _⟩ => (nomatch h1)⟩
  | ok x => exact ⟨fun h => ⟨x.1, x.2, rfl, h⟩, fun ⟨_, _, h1, h2⟩ => by cases h1; exact h2⟩

theorem pure_eq_ok {α : Type} {a b : α} {xs r : Bytes} : pure a xs = .ok (b, r) ↔ b = a ∧ r = xs := by
  simp only [pure, Except.ok.injEq, Prod.mk.injEq]
  exact ⟨fun h => ⟨h.1.symm, h.2.symm⟩, fun h => ⟨h.1.symm, h.2.symm⟩⟩

theorem fail_eq_ok {α : Type} {e : Err} {xs : Bytes} {x : α × Bytes} : (fail e : Parser α) xs = .ok x ↔ False :=
  ⟨fun h => (nomatch h), False.elim⟩

theorem guard_eq_ok {c : Bool} {e : Err} {xs r : Bytes} {u : Unit} : guard c e xs = .ok (u, r) ↔ c = true ∧ r = xs := by
  cases c
  · exact ⟨fun h => (nomatch h), fun h => (nomatch h.1)⟩
  · exact pure_eq_ok.trans ⟨fun h => ⟨rfl, h.2⟩, fun h => ⟨rfl, h.2⟩⟩

theorem take_eq_ok {k : Nat} {xs a r : Bytes} :
    take k xs = .ok (a, r) ↔ k ≤ xs.length ∧ a = xs.take k ∧ r = xs.drop k := by
  unfold take
  split
  · rename_i hk
    simp only [Except.ok.injEq, Prod.mk.injEq, hk, true_and]
    exact ⟨fun h => ⟨h.1.symm, h.2.symm⟩, fun h => ⟨h.1.symm, h.2.symm⟩⟩
  · rename_i hk
    exact ⟨fun h => (nomatch h), fun h => absurd h.1 hk⟩

theorem map_eq_ok {α β : Type} {p : Parser α} {f : α → β} {xs r : Bytes} {b : β} :
    map p f xs = .ok (b, r) ↔ ∃ a, p xs = .ok (a, r) ∧ b = f a := by
  unfold map
  rw [bind_eq_ok]
  constructor
  · rintro ⟨a, r1, hp, h2⟩
    obtain ⟨rfl, rfl⟩ := pure_eq_ok.mp h2
    exact ⟨a, hp, rfl⟩
  · rintro ⟨a, hp, rfl⟩
    exact ⟨a, r, hp, pure_eq_ok.mpr ⟨rfl, rfl⟩⟩

theorem run_of_err {α : Type} {p : Parser α} {xs : Bytes} {e : Err} (h : p xs = .error e) :
    Parser.run p xs = .error e := by
  unfold Parser.run; rw [h]

/-- success is a function of the consumed prefix only, and every proper prefix that cuts into the consumed part is
    refused (the core of C07/C11 "prefixes are refused").  Taken apart by `Local.reads`, established by `Local.of_reads`,
    never unfolded. -/
def Local {α : Type} (p : Parser α) : Prop :=
  ∀ xs a rest, p xs = .ok (a, rest) →
    ∃ n, n ≤ xs.length ∧ rest = xs.drop n ∧
      (∀ ys, n ≤ ys.length → ys.take n = xs.take n → p ys = .ok (a, ys.drop n)) ∧
      (∀ k, k < n → ∃ e, p (xs.take k) = .error e)

theorem Local.reads {α : Type} {p : Parser α} (hp : Local p) {xs : Bytes} {a : α} {r : Bytes} (h : p xs = .ok (a, r)) :
    ∃ s, xs = s ++ r ∧ Reads p s a ∧ ∀ k, k < s.length → ∃ e, p (s.take k) = .error e := by
  obtain ⟨n, hn, rfl, det, str⟩ := hp xs a r h
  have hl : (xs.take n).length = n := List.length_take_of_le hn
  refine ⟨xs.take n, (List.take_append_drop n xs).symm, fun rest => ?_, fun k hk => ?_⟩
  · have := det (xs.take n ++ rest) (by rw [List.length_append, hl]; omega)
      (by rw [List.take_append_of_le_length (by omega), List.take_of_length_le (by omega)])
    rw [this, List.drop_append_of_le_length (by omega), List.drop_of_length_le (by omega), List.nil_append]
  · rw [List.take_take, Nat.min_eq_left (by omega)]
    exact str k (by omega)

theorem Local.of_reads {α : Type} {p : Parser α}
    (hp : ∀ xs a r, p xs = .ok (a, r) → ∃ s, xs = s ++ r ∧ Reads p s a) : Local p := by
  intro xs a rest h
  obtain ⟨s, rfl, hs⟩ := hp xs a rest h
  refine ⟨s.length, by simp, by simp, fun ys _ e => ?_, fun k hk => ?_⟩
  · rw [List.take_left] at e
    rw [← List.take_append_drop s.length ys, e, List.drop_left]
    exact hs _
  · cases hq : p ((s ++ rest).take k) with
    | error e => exact ⟨e, rfl⟩
    | ok x =>
      -- no proper prefix `t` of an accepted `s` is accepted as well: `p` run on `s ++ rest` would have to leave both
      -- `rest` and something longer
      exfalso
      obtain ⟨t, et, ht⟩ := hp _ x.1 x.2 hq
      have hl := congrArg List.length et
      have e2 : s ++ rest = t ++ (x.2 ++ (s ++ rest).drop k) := by
        rw [← List.append_assoc, ← et, List.take_append_drop]
      have := ht (x.2 ++ (s ++ rest).drop k)
      rw [← e2, h, Except.ok.injEq, Prod.mk.injEq] at this
      have := congrArg List.length this.2
      simp only [List.length_append, List.length_take, List.length_drop] at this hl
      omega

theorem local_pure {α : Type} (a : α) : Local (pure a) :=
  Local.of_reads fun xs b r h => by
    obtain ⟨rfl, rfl⟩ := pure_eq_ok.mp h
    exact ⟨[], rfl, reads_pure _⟩

theorem local_fail {α : Type} (e : Err) : Local (fail e : Parser α) :=
  Local.of_reads fun _ _ _ h => nomatch h

theorem local_take (k : Nat) : Local (take k) :=
  Local.of_reads fun xs a r h => by
    obtain ⟨hk, rfl, rfl⟩ := take_eq_ok.mp h
    exact ⟨xs.take k, (List.take_append_drop k xs).symm, reads_take' _ k (List.length_take_of_le hk)⟩

theorem local_bind {α β : Type} {p : Parser α} {f : α → Parser β} (hp : Local p) (hf : ∀ a, Local (f a)) :
    Local (bind p f) :=
  Local.of_reads fun xs b r h => by
    obtain ⟨a, r1, h1, h2⟩ := bind_eq_ok.mp h
    obtain ⟨s1, rfl, hs1, _⟩ := hp.reads h1
    obtain ⟨s2, rfl, hs2, _⟩ := (hf a).reads h2
    exact ⟨s1 ++ s2, (List.append_assoc ..).symm, reads_bind hs1 hs2⟩

theorem local_map {α β : Type} {p : Parser α} (f : α → β) (hp : Local p) : Local (map p f) :=
  local_bind hp (fun _ => local_pure _)

theorem local_guard (c : Bool) (e : Err) : Local (guard c e) := by
  unfold guard; split
  · exact local_pure _
  · exact local_fail _

theorem local_u8 : Local u8 := local_map _ (local_take 1)
theorem local_u16 : Local u16 := local_map _ (local_take 2)
theorem local_u32 : Local u32 := local_map _ (local_take 4)

theorem local_many {α : Type} {p : Parser α} (hp : Local p) : ∀ n, Local (many p n)
  | 0 => local_pure _
  | n + 1 => local_bind hp (fun _ => local_bind (local_many hp n) (fun _ => local_pure _))

theorem Local.trailing {α : Type} {p : Parser α} (hp : Local p) {xs : Bytes} {a : α} {rest : Bytes}
    (h : p xs = .ok (a, rest)) (junk : Bytes) :
    p (xs.take (xs.length - rest.length) ++ junk) = .ok (a, junk) := by
  obtain ⟨s, rfl, hr, _⟩ := hp.reads h
  rw [List.length_append, Nat.add_sub_cancel, List.take_left]
  exact hr junk

theorem Local.prefix_refused {α : Type} {p : Parser α} (hp : Local p) {xs : Bytes} {a : α} {rest : Bytes}
    (h : p xs = .ok (a, rest)) (k : Nat) (hk : k < xs.length - rest.length) :
    ∃ e, p (xs.take k) = .error e := by
  obtain ⟨s, rfl, _, str⟩ := hp.reads h
  rw [List.length_append, Nat.add_sub_cancel] at hk
  rw [List.take_append_of_le_length (Nat.le_of_lt hk)]
  exact str k hk

theorem Local.consumed {α : Type} {p : Parser α} (hp : Local p) {xs : Bytes} {a : α} {r : Bytes} (h : p xs = .ok (a, r)) :
    r.length ≤ xs.length ∧ r = xs.drop (xs.length - r.length) := by
  obtain ⟨s, rfl, _, _⟩ := hp.reads h
  rw [List.length_append, Nat.add_sub_cancel, List.drop_left]
  exact ⟨Nat.le_add_left _ _, rfl⟩

/-- every successful run of `p` consumed some prefix `s` of its input and returned an `a` with `Q a s` -/
def Yields {α : Type} (p : Parser α) (Q : α → Bytes → Prop) : Prop :=
  ∀ xs a r, p xs = .ok (a, r) → ∃ s, xs = s ++ r ∧ Q a s

/-- the value-only form of `Yields` -/
def Ensures {α : Type} (p : Parser α) (P : α → Prop) : Prop := ∀ xs a r, p xs = .ok (a, r) → P a

/-- the bytes-only form of `Yields` (the consumed prefix is `enc a`) -/
def Writes {α : Type} (p : Parser α) (enc : α → Bytes) : Prop := ∀ xs a r, p xs = .ok (a, r) → xs = enc a ++ r

theorem Yields.mono {α : Type} {p : Parser α} {Q Q' : α → Bytes → Prop} (h : Yields p Q) (hq : ∀ a s, Q a s → Q' a s) :
    Yields p Q' := fun xs a r hp =>
  let ⟨s, e, q⟩ := h xs a r hp
  ⟨s, e, hq a s q⟩

theorem Yields.ensures {α : Type} {p : Parser α} {P : α → Prop} (h : Yields p fun a _ => P a) : Ensures p P :=
  fun xs a r hp =>
  let ⟨_, _, q⟩ := h xs a r hp
  q

theorem Yields.writes {α : Type} {p : Parser α} {enc : α → Bytes} (h : Yields p fun a s => s = enc a) : Writes p enc :=
  fun xs a r hp => by
  obtain ⟨s, e, rfl⟩ := h xs a r hp
  exact e

/-- with `yields_X` (exact bytes) and `reads_X` in hand no `local_X` chain is needed -/
theorem Local.of_yields_reads {α : Type} {p : Parser α} {Q : α → Bytes → Prop} (hb : Yields p Q)
    (hf : ∀ a s, Q a s → Reads p s a) : Local p :=
  Local.of_reads fun xs a r h =>
    let ⟨s, e, q⟩ := hb xs a r h
    ⟨s, e, hf a s q⟩

theorem yields_pure {α : Type} {a : α} {Q : α → Bytes → Prop} (h : Q a []) : Yields (pure a) Q := by
  intro xs b r hp
  obtain ⟨rfl, rfl⟩ := pure_eq_ok.mp hp
  exact ⟨[], rfl, h⟩

theorem yields_fail {α : Type} {e : Err} {Q : α → Bytes → Prop} : Yields (fail e : Parser α) Q :=
  fun _ _ _ hp => nomatch hp

theorem yields_take (k : Nat) : Yields (take k) fun a s => a = s ∧ s.length = k := by
  intro xs a r hp
  obtain ⟨hk, rfl, rfl⟩ := take_eq_ok.mp hp
  exact ⟨xs.take k, (List.take_append_drop k xs).symm, rfl, List.length_take_of_le hk⟩

theorem yields_guard (c : Bool) (e : Err) : Yields (guard c e) fun _ s => c = true ∧ s = [] := by
  intro xs u r hp
  obtain ⟨hc, rfl⟩ := guard_eq_ok.mp hp
  exact ⟨[], rfl, hc, rfl⟩

theorem yields_bind {α β : Type} {p : Parser α} {f : α → Parser β} {Q1 : α → Bytes → Prop} {Q : β → Bytes → Prop}
    (hp : Yields p Q1) (hf : ∀ a s1, Q1 a s1 → Yields (f a) fun b s2 => Q b (s1 ++ s2)) : Yields (bind p f) Q := by
  intro xs b r h
  obtain ⟨a, r1, h1, h2⟩ := bind_eq_ok.mp h
  obtain ⟨s1, rfl, q1⟩ := hp xs a r1 h1
  obtain ⟨s2, rfl, q⟩ := hf a s1 q1 r1 b r h2
  exact ⟨s1 ++ s2, (List.append_assoc ..).symm, q⟩

/-! A `Yields` chain for a composite parser is best written `refine yields_bind h₁ fun a₁ s₁ q₁ => … yields_pure ?_`
with plain binders, the last obligation proved afterwards in tactic mode: arithmetic inside the term, under
pattern-matching binders, is slow to check. -/

theorem yields_map {α β : Type} {p : Parser α} {f : α → β} {Q1 : α → Bytes → Prop} {Q : β → Bytes → Prop}
    (hp : Yields p Q1) (hf : ∀ a s, Q1 a s → Q (f a) s) : Yields (map p f) Q :=
  yields_bind hp fun a s q => yields_pure (by rw [List.append_nil]; exact hf a s q)

theorem yields_map_take {α : Type} (k : Nat) (dec : Bytes → α) :
    Yields (map (take k) dec) fun a s => a = dec s ∧ s.length = k :=
  yields_map (yields_take k) fun a s ⟨e, hl⟩ => ⟨by rw [e], hl⟩

theorem yields_many {α : Type} {p : Parser α} {Q : α → Bytes → Prop} {R : List α → Bytes → Prop} (hp : Yields p Q)
    (hnil : R [] []) (hcons : ∀ a s as t, Q a s → R as t → R (a :: as) (s ++ t)) :
    ∀ n, Yields (many p n) fun as s => as.length = n ∧ R as s
  | 0 => yields_pure ⟨rfl, hnil⟩
  | n + 1 => yields_bind hp fun a s q => yields_bind (yields_many hp hnil hcons n) fun as t ⟨hl, hr⟩ =>
      yields_pure (by rw [List.append_nil]; exact ⟨by rw [List.length_cons, hl], hcons a s as t q hr⟩)

theorem yields_many_enc {α : Type} {p : Parser α} {enc : α → Bytes} {P : α → Prop}
    (hp : Yields p fun a s => s = enc a ∧ P a) (n : Nat) :
    Yields (many p n) fun as s => as.length = n ∧ s = as.flatMap enc ∧ ∀ a ∈ as, P a :=
  yields_many hp ⟨rfl, fun _ h => nomatch h⟩
    (fun a s as t ⟨es, pa⟩ ⟨et, pas⟩ => ⟨by rw [es, et, List.flatMap_cons], fun x hx => by
      rcases List.mem_cons.mp hx with rfl | hx
      · exact pa
      · exact pas x hx⟩) n

theorem yields_u8 : Yields u8 fun v s => v < 256 ∧ s = encU8 v :=
  yields_map (yields_take 1) fun a s ⟨e, hl⟩ => by
    subst e
    match a, hl with
    | [b], _ => exact ⟨b.toNat_lt, (Codec.encU8_toNat b).symm⟩

theorem yields_u16 : Yields u16 fun v s => v < 65536 ∧ s = encU16 v :=
  yields_map (yields_take 2) fun a s ⟨e, hl⟩ => by
    subst e
    match a, hl with
    | [b, c], _ => exact ⟨Codec.decU16_lt _, (Codec.encU16_decU16 b c []).symm⟩

theorem yields_u32 : Yields u32 fun v s => v < 4294967296 ∧ s = encU32 v :=
  yields_map (yields_take 4) fun a s ⟨e, hl⟩ => by
    subst e
    match a, hl with
    | [b, c, d, e], _ => exact ⟨Codec.decU32_lt _, (Codec.encU32_decU32 b c d e []).symm⟩

theorem ensures_u32 : Ensures Parser.u32 (fun v => v < 4294967296) := (yields_u32.mono fun _ _ h => h.1).ensures
theorem writes_u32 : Writes Parser.u32 encU32 := (yields_u32.mono fun _ _ h => h.2).writes

end Op2.Parser
