import Op2Proofs.Bmp.Arith
import Op2Model.Gen.Formulas
import Op2Proofs.Gen.Tactics
/-!
The model's row-size formulas against those translated from `ImageHeader::CalcPixelByteWidth` / `CalculatePitch`.
-/
-- the simp sets name rewrite rules for both spellings of the source, of which a given run uses one
set_option linter.unusedSimpArgs false
namespace Op2.Bmp
open Op2 Op2.Gen.Formulas Op2.GenTactics

theorem gen_CalcPixelByteWidth_eq (bits : Nat) (w : Int) (hb : bits < 65536) :
    gen_CalcPixelByteWidth_translated = true → gen_CalcPixelByteWidth (bits : Int) w = (pixByteWidth bits w : Nat) := by
  gen_bridge =>
  unfold gen_CalcPixelByteWidth pixByteWidth toU64
  simp only [castU, castS, W64, gen_norm]
  -- the converted width is a natural number `u`; only its product with the bit count is non-linear: make it an atom
  obtain ⟨u, hu⟩ : ∃ u : Nat, w % 18446744073709551616 = (u : Int) := ⟨_, (Int.toNat_of_nonneg (by omega)).symm⟩
  have eb : ((bits : Int) % 18446744073709551616) = (bits : Int) := by omega
  rw [hu, eb, Int.toNat_natCast, ← Int.natCast_mul]
  generalize u * bits = m
  omega

theorem gen_CalculatePitch_eq (bits : Nat) (w : Int) (hb : bits < 65536) :
    (gen_CalcPixelByteWidth_translated && gen_CalculatePitch_translated) = true →
    gen_CalculatePitch (bits : Int) w = (pitch bits w : Nat) := by
  gen_bridge =>
  unfold gen_CalculatePitch pitch
  simp only [gen_CalcPixelByteWidth_eq bits w hb (by decide)]
  generalize pixByteWidth bits w = q
  simp only [castU, castS, W64, gen_norm]
  -- the rounding spelled with the mask `~3` becomes arithmetic; spelled with `/`, `*`, `%` it is arithmetic already
  try rw [and_mask64 _ (by omega)]
  omega

end Op2.Bmp
