import Op2Proofs.Bmp.Arith
/-!
The two row loops (`writeRows`, `invertRows`) never leave a pixel array that holds `n` rows; what they produce, in
terms of `storedRows`.
-/
namespace Op2.Bmp
open Op2

theorem storedRows_length (px : Bytes) (p : Nat) : ∀ n, (storedRows px p n).length = n
  | 0 => rfl
  | n + 1 => by
    have := storedRows_length (px.drop p) p n
    simp [storedRows, this]

theorem storedRows_row_length (p : Nat) : ∀ (n : Nat) (px : Bytes), n * p ≤ px.length → ∀ r ∈ storedRows px p n, r.length = p
  | 0, px, _, r, hr => by simp [storedRows] at hr
  | n + 1, px, h, r, hr => by
    simp only [storedRows, List.mem_cons] at hr
    have hp : p ≤ px.length := by rw [Nat.add_mul] at h; omega
    rcases hr with e | e
    · rw [e, List.length_take]; omega
    · exact storedRows_row_length p n (px.drop p) (by rw [List.length_drop, Nat.add_mul] at *; omega) r e

theorem storedRows_flatten (p : Nat) : ∀ (n : Nat) (px : Bytes), px.length = n * p → (storedRows px p n).flatten = px
  | 0, px, h => by
    have : px = [] := List.eq_nil_of_length_eq_zero (by omega)
    simp [storedRows, this]
  | n + 1, px, h => by
    simp only [storedRows, List.flatten_cons]
    rw [storedRows_flatten p n (px.drop p) (by rw [List.length_drop, h, Nat.add_mul]; omega)]
    exact List.take_append_drop p px

theorem storedRows_of_flatten (p : Nat) : ∀ {n : Nat} (L : List Bytes), L.length = n → (∀ r ∈ L, r.length = p) →
    storedRows L.flatten p n = L
  | _, [], rfl, _ => rfl
  | _, r :: L, rfl, h => by
    have hr : r.length = p := h r (by simp)
    simp only [List.flatten_cons, List.length_cons, storedRows]
    rw [List.take_append_of_le_length (by omega), List.take_of_length_le (by omega),
        List.drop_append_of_le_length (by omega), List.drop_of_length_le (by omega), List.nil_append,
        storedRows_of_flatten p L rfl (fun x hx => h x (by simp [hx]))]

theorem storedRows_snoc (p : Nat) : ∀ (n : Nat) (px : Bytes),
    storedRows px p (n + 1) = storedRows px p n ++ [(px.drop (n * p)).take p]
  | 0, px => by simp [storedRows]
  | n + 1, px => by
    have := storedRows_snoc p n (px.drop p)
    rw [storedRows, this]
    simp only [storedRows, List.cons_append, List.drop_drop]
    have : p + n * p = (n + 1) * p := by rw [Nat.add_mul]; omega
    rw [this]

theorem invertRows_ok (px : Bytes) (p : Nat) : ∀ n, n * p ≤ px.length →
    invertRows px p n = .ok (storedRows px p n).reverse.flatten
  | 0, _ => rfl
  | n + 1, h => by
    have h1 : n * p + p ≤ px.length := by rw [Nat.add_mul] at h; omega
    unfold invertRows
    rw [slice_ok h1, invertRows_ok px p n (by omega), storedRows_snoc]
    simp

def padRow (p bpr : Nat) (r : Bytes) : Bytes := r.take bpr ++ zeros (p - bpr)

theorem writeRows_ok (p bpr : Nat) (hb : bpr ≤ p) : ∀ (n y : Nat) (px : Bytes), (y + n) * p ≤ px.length → px.length < W64 →
    writeRows px p bpr n y = .ok ((storedRows (px.drop (y * p)) p n).map (padRow p bpr)).flatten
  | 0, _, _, _, _ => rfl
  | n + 1, y, px, h, hl => by
    have h1 : y * p + p ≤ px.length := by
      have : (y + (n + 1)) * p = y * p + p + n * p := by simp [Nat.add_mul]; omega
      omega
    unfold writeRows
    rw [Nat.mod_eq_of_lt (by omega), slice_ok (by omega),
        writeRows_ok p bpr hb n (y + 1) px (by have : y + 1 + n = y + (n + 1) := by omega
                                               rw [this]; exact h) hl]
    simp only [storedRows, List.map_cons, List.flatten_cons, List.drop_drop, padRow]
    have e1 : (y + 1) * p = y * p + p := by rw [Nat.add_mul]; omega
    rw [e1, List.take_take, Nat.min_eq_left hb, List.append_assoc]

theorem flatten_length_of_rows (p : Nat) {n : Nat} (R : List Bytes) (hn : R.length = n) (h : ∀ r ∈ R, r.length = p) :
    R.flatten.length = n * p := by
  rw [List.length_flatten, List.map_congr_left h, List.map_const', List.sum_replicate_nat, hn]

theorem reversed_rows (p n : Nat) (px : Bytes) (h : n * p ≤ px.length) : ∀ r ∈ (storedRows px p n).reverse, r.length = p :=
  fun r hr => storedRows_row_length p n px h r (List.mem_reverse.mp hr)

theorem reversed_length (p n : Nat) (px : Bytes) (h : n * p ≤ px.length) :
    (storedRows px p n).reverse.flatten.length = n * p :=
  flatten_length_of_rows p _ (List.length_reverse.trans (storedRows_length px p n)) (reversed_rows p n px h)

theorem storedRows_reversed (p n : Nat) (px : Bytes) (h : n * p ≤ px.length) :
    storedRows (storedRows px p n).reverse.flatten p n = (storedRows px p n).reverse :=
  storedRows_of_flatten p _ (List.length_reverse.trans (storedRows_length px p n)) (reversed_rows p n px h)

theorem padRow_length (p bpr : Nat) (hb : bpr ≤ p) (r : Bytes) (hr : r.length = p) : (padRow p bpr r).length = p := by
  unfold padRow zeros
  rw [List.length_append, List.length_take, List.length_replicate]
  omega

theorem padRow_clean (p bpr : Nat) (r : Bytes) (h : r.drop bpr = zeros (p - bpr)) : padRow p bpr r = r := by
  unfold padRow; rw [← h]; exact List.take_append_drop bpr r

theorem padded_rows (p bpr n : Nat) (px : Bytes) (hb : bpr ≤ p) (h : n * p ≤ px.length) :
    ∀ r ∈ (storedRows px p n).map (padRow p bpr), r.length = p := by
  intro r hr
  obtain ⟨r0, h0, rfl⟩ := List.mem_map.mp hr
  exact padRow_length p bpr hb r0 (storedRows_row_length p n px h r0 h0)

theorem padded_length (p bpr n : Nat) (px : Bytes) (hb : bpr ≤ p) (h : n * p ≤ px.length) :
    ((storedRows px p n).map (padRow p bpr)).flatten.length = n * p :=
  flatten_length_of_rows p _ ((List.length_map _).trans (storedRows_length px p n)) (padded_rows p bpr n px hb h)

theorem storedRows_padded (p bpr n : Nat) (px : Bytes) (hb : bpr ≤ p) (h : n * p ≤ px.length) :
    storedRows ((storedRows px p n).map (padRow p bpr)).flatten p n = (storedRows px p n).map (padRow p bpr) :=
  storedRows_of_flatten p _ ((List.length_map _).trans (storedRows_length px p n)) (padded_rows p bpr n px hb h)

theorem padded_clean (p bpr n : Nat) (px : Bytes) (hl : px.length = n * p)
    (hc : ∀ r ∈ storedRows px p n, r.drop bpr = zeros (p - bpr)) :
    ((storedRows px p n).map (padRow p bpr)).flatten = px := by
  rw [List.map_congr_left fun r hr => padRow_clean p bpr r (hc r hr), List.map_id']
  exact storedRows_flatten p n px hl

theorem storedRows_mem (p : Nat) : ∀ (n : Nat) (px : Bytes), ∀ r ∈ storedRows px p n, ∀ x ∈ r, x ∈ px
  | 0, px, r, hr, _, _ => by simp [storedRows] at hr
  | n + 1, px, r, hr, x, hx => by
    simp only [storedRows, List.mem_cons] at hr
    rcases hr with e | e
    · rw [e] at hx; exact List.mem_of_mem_take hx
    · exact List.mem_of_mem_drop (storedRows_mem p n (px.drop p) r e x hx)

theorem zeros_clean (p bpr n k : Nat) (h : n * p ≤ k) :
    ∀ r ∈ storedRows (zeros k) p n, r.drop bpr = zeros (p - bpr) := by
  intro r hr
  have hl : r.length = p := storedRows_row_length p n (zeros k) (by unfold zeros; simpa using h) r hr
  have hz : r = List.replicate p 0 :=
    List.eq_replicate_iff.mpr ⟨hl, fun x hx => (List.mem_replicate.mp (storedRows_mem p n (zeros k) r hr x hx)).2⟩
  rw [hz]; unfold zeros; simp

end Op2.Bmp
