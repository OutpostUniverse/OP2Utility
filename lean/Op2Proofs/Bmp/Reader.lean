import Op2Proofs.Bmp.Ops
import Op2Proofs.ParserExact
/-!
`ReadIndexed` accepts exactly the serialisations of `Loaded` objects whose size field is not below the stream length.
The colour record is a case of `exact_record`; for every composite sub-parser two chains: `reads_X` (the serialisation of
a value in range is read back) and `yields_X` (whatever is accepted is in range and the bytes consumed were its
serialisation).
-/
namespace Op2.Bmp
open Op2 Op2.Parser

theorem reads_i32 (x : Int) (h : -2147483648 ≤ x ∧ x < 2147483648) : Reads Rd.i32 (encI32 x) x := by
  have := reads_map Op2.i32 (reads_u32 (toU32 x) (toU32_lt x))
  rwa [i32_toU32 x h] at this

theorem yields_i32 : Yields Rd.i32 (fun v s => (-2147483648 ≤ v ∧ v < 2147483648) ∧ s = encI32 v) :=
  yields_map yields_u32 fun v _ ⟨hv, e⟩ => ⟨i32_range v, by rw [e, encI32, toU32_i32 v hv]⟩

theorem exact_color : Exact Rd.color Color.enc (fun _ => True) := by
  refine exact_record (k := 4) (dec := Color.ofBytes) (fun bs h => ⟨trivial, ?_⟩) (fun _ _ => ⟨rfl, rfl⟩)
  match bs, h with
  | [_, _, _, _], _ => rfl

theorem reads_palette (p : List Color) : Reads (many Rd.color p.length) (encPalette p) p :=
  reads_many (fun _ => exact_color.reads trivial) p

theorem reads_bmpHeader (len : Nat) (bh : BmpHeader) (hr : bh.InRange) (hs : bh.sig = fileSignature) (hl : len ≤ bh.size) :
    Reads (Rd.bmpHeader len) bh.enc bh := by
  intro rest
  unfold Rd.bmpHeader BmpHeader.enc
  simp only [List.append_assoc]
  rw [(reads_take' _ 2 hr.sig).bind_eq, (reads_u32 _ hr.size).bind_eq, (reads_u16 _ hr.reserved1).bind_eq,
    (reads_u16 _ hr.reserved2).bind_eq, (reads_u32 _ hr.pixelOffset).bind_eq, bind_guard (decide_eq_true hs),
    bind_guard (decide_eq_true (Nat.not_lt.mpr hl))]
  rfl

theorem yields_bmpHeader (len : Nat) :
    Yields (Rd.bmpHeader len) (fun b s => b.InRange ∧ b.sig = fileSignature ∧ len ≤ b.size ∧ s = b.enc) := by
  unfold Rd.bmpHeader
  exact yields_bind (yields_take 2) fun _ _ ⟨e1, h1⟩ => yields_bind yields_u32 fun _ _ ⟨h2, e2⟩ =>
    yields_bind yields_u16 fun _ _ ⟨h3, e3⟩ => yields_bind yields_u16 fun _ _ ⟨h4, e4⟩ =>
    yields_bind yields_u32 fun _ _ ⟨h5, e5⟩ => yields_bind (yields_guard _ _) fun _ _ ⟨g1, e6⟩ =>
    yields_bind (yields_guard _ _) fun _ _ ⟨g2, e7⟩ => yields_pure
      ⟨⟨e1 ▸ h1, h2, h3, h4, h5⟩, of_decide_eq_true g1, Nat.le_of_not_lt (of_decide_eq_true g2), by
        subst e1 e2 e3 e4 e5 e6 e7; simp only [BmpHeader.enc, List.append_assoc, List.append_nil]⟩

theorem reads_imageHeaderRaw (ih : ImageHeader) (hr : ih.InRange) : Reads Rd.imageHeaderRaw ih.enc ih := by
  intro rest
  unfold Rd.imageHeaderRaw ImageHeader.enc
  simp only [List.append_assoc]
  rw [(reads_u32 _ hr.headerSize).bind_eq, (reads_i32 _ hr.width).bind_eq, (reads_i32 _ hr.height).bind_eq,
    (reads_u16 _ hr.planes).bind_eq, (reads_u16 _ hr.bitCount).bind_eq, (reads_u32 _ hr.compression).bind_eq,
    (reads_u32 _ hr.imageSize).bind_eq, (reads_u32 _ hr.xRes).bind_eq, (reads_u32 _ hr.yRes).bind_eq,
    (reads_u32 _ hr.used).bind_eq, (reads_u32 _ hr.important).bind_eq]
  rfl

theorem yields_imageHeaderRaw : Yields Rd.imageHeaderRaw (fun h s => h.InRange ∧ s = h.enc) := by
  unfold Rd.imageHeaderRaw
  exact yields_bind yields_u32 fun _ _ ⟨h1, e1⟩ => yields_bind yields_i32 fun _ _ ⟨h2, e2⟩ =>
    yields_bind yields_i32 fun _ _ ⟨h3, e3⟩ => yields_bind yields_u16 fun _ _ ⟨h4, e4⟩ =>
    yields_bind yields_u16 fun _ _ ⟨h5, e5⟩ => yields_bind yields_u32 fun _ _ ⟨h6, e6⟩ =>
    yields_bind yields_u32 fun _ _ ⟨h7, e7⟩ => yields_bind yields_u32 fun _ _ ⟨h8, e8⟩ =>
    yields_bind yields_u32 fun _ _ ⟨h9, e9⟩ => yields_bind yields_u32 fun _ _ ⟨h10, e10⟩ =>
    yields_bind yields_u32 fun _ _ ⟨h11, e11⟩ => yields_pure
      ⟨⟨h1, h2, h3, h4, h5, h6, h7, h8, h9, h10, h11⟩, by
        subst e1 e2 e3 e4 e5 e6 e7 e8 e9 e10 e11; simp only [ImageHeader.enc, List.append_assoc, List.append_nil]⟩

theorem reads_imageHeader (ih : ImageHeader) (hr : ih.InRange) (hv : ih.Valid) : Reads Rd.imageHeader ih.enc ih := by
  intro rest
  unfold Rd.imageHeader
  rw [(reads_imageHeaderRaw ih hr).bind_eq, bind_guard (decide_eq_true hv), bind_guard (decide_eq_true hv.bits_le)]
  rfl

theorem yields_imageHeader : Yields Rd.imageHeader (fun h s => h.InRange ∧ h.Valid ∧ s = h.enc) := by
  unfold Rd.imageHeader
  exact yields_bind yields_imageHeaderRaw fun _ _ ⟨hr, e1⟩ => yields_bind (yields_guard _ _) fun _ _ ⟨g1, e2⟩ =>
    yields_bind (yields_guard _ _) fun _ _ ⟨_, e3⟩ => yields_pure
      ⟨hr, of_decide_eq_true g1, by rw [e1, e2, e3]; simp only [List.append_nil]⟩

theorem reads_bmp {g : Bmp} (L : Loaded g) (len : Nat) (hl : len ≤ g.bh.size) : Reads (Rd.bmp len) (encode g) (.ok g) := by
  intro rest
  obtain ⟨bh, ih, pal, px⟩ := g
  have hpx : Rd.pixelBytes bh = px.length := L.pixSize
  unfold encode Rd.bmp
  simp only [List.append_assoc]
  rw [(reads_bmpHeader len bh L.bhRange L.sig hl).bind_eq, (reads_imageHeader ih L.ihRange L.valid).bind_eq,
    ← (L.npal : pal.length = _), (reads_palette pal).bind_eq]
  simp only [(L.abs : absI32 ih.height = _)]
  rw [bind_guard (decide_eq_true (by rw [hpx, Nat.mod_eq_of_lt L.nowrap]; exact L.npix)),
    bind_guard (decide_eq_true (by rw [hpx]; exact L.cap)), hpx, (reads_take px).bind_eq]
  rfl

theorem yields_bmp (len : Nat) :
    Yields (Rd.bmp len) (fun o s => ∃ f, o = .ok f ∧ Loaded f ∧ len ≤ f.bh.size ∧ s = encode f) := by
  unfold Rd.bmp
  refine yields_bind (yields_bmpHeader len) fun bh _ ⟨hB, hsig, hlen, e1⟩ =>
    yields_bind yields_imageHeader fun ih _ ⟨hI, hV, e2⟩ =>
    yields_bind (exact_many exact_color _).yields fun pal _ ⟨⟨hP, _⟩, e3⟩ => ?_
  simp only [absI32_of_ne hV.height_ne]
  refine yields_bind (yields_guard _ _) fun _ _ ⟨g1, e4⟩ => yields_bind (yields_guard _ _) fun _ _ ⟨g2, e5⟩ =>
    yields_bind (yields_take _) fun px _ ⟨e6, hpx⟩ => yields_pure ?_
  subst e6
  refine ⟨_, rfl, ⟨hB, hI, hsig, hV, hP, ?_, hpx.symm, ?_⟩, hlen, ?_⟩
  · show px.length = _
    rw [hpx, of_decide_eq_true g1, Nat.mod_eq_of_lt (pitch_mul_lt hV hI)]
  · show px.length ≤ allocCap
    rw [hpx]; exact of_decide_eq_true g2
  · subst e1 e2 e3 e4 e5
    simp only [encode, encPalette, List.append_assoc, List.append_nil, List.nil_append]

theorem local_bmp (len : Nat) : Local (Rd.bmp len) :=
  Local.of_yields_reads (yields_bmp len) fun _ _ ⟨_, e, L, hl, es⟩ => by rw [e, es]; exact reads_bmp L len hl

theorem runOut_eq_ok {α : Type} {p : Parser (Out α)} {b : Bytes} {a : α} :
    runOut p b = .ok a ↔ ∃ rest, p b = .ok (.ok a, rest) := by
  unfold runOut
  cases p b with
  | error e => exact ⟨nofun, nofun⟩
  | ok x => exact ⟨fun h => ⟨x.2, by rw [← h]⟩, fun ⟨_, h⟩ => by cases h; rfl⟩

theorem runOut_isFault_of_yields {α : Type} {p : Parser (Out α)} {Q : Out α → Bytes → Prop} (hy : Yields p Q)
    (hq : ∀ o s, Q o s → ∃ a, o = .ok a) (b : Bytes) : (runOut p b).isFault = false := by
  unfold runOut
  split
  · rename_i o _ hp
    obtain ⟨s, _, q⟩ := hy _ _ _ hp
    obtain ⟨_, rfl⟩ := hq o s q
    rfl
  · rfl

theorem runOut_of_err {α : Type} {p : Parser (Out α)} {b : Bytes} {e : Err} (h : p b = .error e) : runOut p b = .err e := by
  unfold runOut; rw [h]

theorem read_eq_ok {b : Bytes} {f : Bmp} :
    Bmp.read b = .ok f ↔ Loaded f ∧ b.length ≤ f.bh.size ∧ ∃ rest, b = encode f ++ rest := by
  rw [Bmp.read, runOut_eq_ok]
  constructor
  · rintro ⟨rest, hp⟩
    obtain ⟨_, rfl, _, e, L, hl, rfl⟩ := yields_bmp _ _ _ _ hp
    cases e
    exact ⟨L, hl, rest, rfl⟩
  · rintro ⟨L, hl, rest, rfl⟩
    exact ⟨rest, reads_bmp L _ hl rest⟩

theorem read_loaded {b : Bytes} {f : Bmp} (h : Bmp.read b = .ok f) : Loaded f := (read_eq_ok.mp h).1

theorem read_encode {g : Bmp} (L : Loaded g) (hsz : 54 + 4 * g.palette.length + g.pixels.length ≤ g.bh.size) :
    Bmp.read (encode g) = .ok g :=
  read_eq_ok.mpr ⟨L, by rw [encode_length L.bhRange.sig]; exact hsz, [], (List.append_nil _).symm⟩

end Op2.Bmp
