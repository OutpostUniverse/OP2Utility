import Op2Proofs.Bmp.ReadInv
import Op2Proofs.Bmp.Rows
/-!
`CreateIndexed` and `WriteIndexed` build both headers anew around a palette and a pixel array; `canon` is that object,
`canon_loaded` the one place where it is shown to have the reader's invariants.  `normalize f` is the `canon` that comes
back when `f` is written and read.
-/
namespace Op2.Bmp
open Op2

/-- the image header `ImageHeader::Create` returns -/
def ImageHeader.default (w h : Int) (bits : Nat) : ImageHeader :=
  { headerSize := sizeImageHeader, width := w, height := h, planes := 1, bitCount := bits, compression := 0,
    imageSize := 0, xRes := 0, yRes := 0, used := 0, important := 0 }

theorem ImageHeader.create_eq (w h : Int) (bits : Nat) :
    ImageHeader.create w h bits =
      if bits ∈ validBitCounts ∧ 0 ≤ w ∧ h ≠ I32_MIN then .ok (.default w h bits) else .error .format := rfl

def pixelStart (bits : Nat) : Nat := sizeBmpHeader + sizeImageHeader + 2 ^ bits * 4

def canon (bits : Nat) (w h : Int) (pal : List Color) (px : Bytes) : Bmp :=
  { bh := BmpHeader.create (pixelStart bits + px.length) (pixelStart bits), ih := .default w h bits, palette := pal, pixels := px }

/-- depth, width and height that `ImageHeader::Create` accepts for an indexed image with 32-bit dimensions -/
structure Geometry (bits : Nat) (w h : Int) : Prop where
  bits : bits = 1 ∨ bits = 4 ∨ bits = 8
  width : 0 ≤ w ∧ w < 2147483648
  height : -2147483648 < h ∧ h < 2147483648

namespace Geometry
variable {bits : Nat} {w h : Int}

theorem valid (G : Geometry bits w h) : (ImageHeader.default w h bits).Valid := by
  refine ⟨rfl, rfl, ?_, G.width.1, ?_, ?_, Nat.zero_le _, Nat.zero_le _⟩
  · show bits ∈ validBitCounts
    rcases G.bits with e | e | e <;> rw [e] <;> decide
  · show h ≠ I32_MIN
    have := G.height; unfold I32_MIN; omega
  · show bits ≤ 8
    have := G.bits; omega

theorem inRange (G : Geometry bits w h) : (ImageHeader.default w h bits).InRange := by
  have hb : bits < W16 := by have := G.bits; unfold W16; omega
  have z32 : 0 < W32 := by decide
  exact ⟨(by decide : sizeImageHeader < W32), ⟨Int.le_trans (by decide) G.width.1, G.width.2⟩,
    ⟨Int.le_of_lt G.height.1, G.height.2⟩, (by decide : 1 < W16), hb, z32, z32, z32, z32, z32, z32⟩

-- the header is given: left to unification, Lean unfolds `pitch … < W64` down to the literal and runs out of heartbeats
theorem nowrap (G : Geometry bits w h) : pitch bits w * h.natAbs < W64 :=
  pitch_mul_lt (h := .default w h bits) G.valid G.inRange

end Geometry

theorem Loaded.geometry {f : Bmp} (L : Loaded f) : Geometry f.ih.bitCount f.ih.width f.ih.height :=
  ⟨L.bits, ⟨L.width_nonneg, L.ihRange.width.2⟩, by
    have := L.ihRange.height; have := L.height_ne; unfold I32_MIN at *; omega⟩

theorem canon_loaded {bits : Nat} {w h : Int} {pal : List Color} {px : Bytes} (G : Geometry bits w h)
    (hpal : pal.length = 2 ^ bits) (hpx : px.length = pitch bits w * h.natAbs) (hcap : px.length ≤ allocCap) :
    Loaded (canon bits w h pal px) := by
  have hpow := pow_bits_le G.bits
  have hoff : pixelStart bits + px.length < W32 := by
    unfold pixelStart sizeBmpHeader sizeImageHeader W32; unfold allocCap at hcap; omega
  have z16 : 0 < W16 := by decide
  refine ⟨⟨rfl, hoff, z16, z16, Nat.lt_of_le_of_lt (Nat.le_add_right _ _) hoff⟩, G.inRange, rfl, G.valid, ?_, hpx,
    ?_, hcap⟩
  · show pal.length = Rd.paletteCount _
    rw [hpal]; rfl
  · show (W32 + (pixelStart bits + px.length) - pixelStart bits) % W32 = px.length
    rw [Nat.add_comm (pixelStart bits), ← Nat.add_assoc, Nat.add_sub_cancel, Nat.add_mod_left]
    exact Nat.mod_eq_of_lt (Nat.lt_of_le_of_lt (Nat.le_add_left _ _) hoff)

/-- the object `ReadIndexed` returns for the bytes `WriteIndexed` produced from `f`: regenerated headers, the palette
    filled up to `2^bits` entries, every row's padding zeroed -/
def normalize (f : Bmp) : Bmp :=
  canon f.ih.bitCount f.ih.width f.ih.height (fullPalette f.ih.bitCount f.palette)
    ((storedRows f.pixels (pitch f.ih.bitCount f.ih.width) f.ih.height.natAbs).map
      (padRow (pitch f.ih.bitCount f.ih.width) (pixByteWidth f.ih.bitCount f.ih.width))).flatten

theorem normalize_pixels_length {f : Bmp} (L : Loaded f) : (normalize f).pixels.length = f.pixels.length := by
  rw [L.rows]
  exact padded_length _ _ _ _ (pixByteWidth_le_pitch _ _) L.rows_le

theorem normalize_loaded {f : Bmp} (L : Loaded f) : Loaded (normalize f) :=
  canon_loaded L.geometry L.fullPalette_length ((normalize_pixels_length L).trans L.npix)
    (Nat.le_trans (Nat.le_of_eq (normalize_pixels_length L)) L.cap)

theorem encode_normalize_length {f : Bmp} (L : Loaded f) :
    (encode (normalize f)).length = 54 + 4 * 2 ^ f.ih.bitCount + f.pixels.length := by
  rw [encode_length (by rfl), show (normalize f).palette.length = _ from L.fullPalette_length, normalize_pixels_length L]

theorem normalize_pixels_of_clean {f : Bmp} (L : Loaded f)
    (hc : ∀ r ∈ storedRows f.pixels (pitch f.ih.bitCount f.ih.width) f.ih.height.natAbs,
      r.drop (pixByteWidth f.ih.bitCount f.ih.width) = zeros (pitch f.ih.bitCount f.ih.width - pixByteWidth f.ih.bitCount f.ih.width)) :
    (normalize f).pixels = f.pixels :=
  padded_clean _ _ _ _ L.rows hc

theorem normalize_canon {bits : Nat} {w h : Int} {pal : List Color} {px : Bytes} (L : Loaded (canon bits w h pal px))
    (hpal : pal.length = 2 ^ bits)
    (hc : ∀ r ∈ storedRows px (pitch bits w) h.natAbs, r.drop (pixByteWidth bits w) = zeros (pitch bits w - pixByteWidth bits w)) :
    normalize (canon bits w h pal px) = canon bits w h pal px := by
  have hpx : (normalize (canon bits w h pal px)).pixels = px := normalize_pixels_of_clean L hc
  have hfull : fullPalette bits pal = pal := by
    unfold fullPalette; rw [hpal, Nat.sub_self]; exact List.append_nil pal
  show canon bits w h (fullPalette bits pal) (normalize (canon bits w h pal px)).pixels = _
  rw [hpx, hfull]

end Op2.Bmp
