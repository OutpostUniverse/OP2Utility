import Op2Model.Bmp
import Op2Proofs.Word
/-!
The checked primitives, the 32-bit conversions and the row-size formulas of the BMP model on the values where nothing
goes wrong or wraps.
-/
namespace Op2.Bmp
open Op2

theorem Out.isFault_eq_false_iff {α : Type} {o : Out α} : o.isFault = false ↔ ∀ g, o ≠ .fault g := by
  cases o with
  | ok a => exact ⟨fun _ _ => nofun, fun _ => rfl⟩
  | err e => exact ⟨fun _ _ => nofun, fun _ => rfl⟩
  | fault g => exact ⟨nofun, fun h => (h g rfl).elim⟩

theorem absI32_of_ne {h : Int} (hne : h ≠ I32_MIN) : absI32 h = .ok h.natAbs := by
  unfold absI32; rw [if_neg hne]

theorem negI32_of_ne {h : Int} (hne : h ≠ I32_MIN) : negI32 h = .ok (-h) := by
  unfold negI32; rw [if_neg hne]

/-- the negation of an `int32_t` is never `INT32_MIN` -/
theorem absI32_neg {h : Int} (hr : h < 2147483648) : absI32 (-h) = .ok h.natAbs := by
  rw [absI32_of_ne (by unfold I32_MIN; omega), Int.natAbs_neg]

theorem slice_ok {v : Bytes} {off n : Nat} (h : off + n ≤ v.length) : slice v off n = .ok ((v.drop off).take n) := by
  unfold slice; rw [if_pos h]

theorem toU32_lt (x : Int) : toU32 x < W32 := by
  unfold toU32 W32; omega

theorem i32_range (x : Nat) : -2147483648 ≤ Op2.i32 x ∧ Op2.i32 x < 2147483648 := by
  unfold Op2.i32 W32
  split <;> omega

theorem i32_toU32 (x : Int) (h : -2147483648 ≤ x ∧ x < 2147483648) : Op2.i32 (toU32 x) = x := by
  unfold Op2.i32 toU32 W32
  split <;> omega

theorem toU32_i32 (v : Nat) (h : v < W32) : toU32 (Op2.i32 v) = v := by
  unfold Op2.i32 toU32 W32 at *
  split <;> omega

/-- `ValidateTileset` tests the height converted to `uint32_t` -/
theorem toU32_mod32 (h : Int) : toU32 h % 32 = 0 ↔ h % 32 = 0 := by
  unfold toU32 W32; omega

theorem toU64_of_nonneg (w : Int) (h0 : 0 ≤ w) (h1 : w < 2147483648) : toU64 w = w.toNat := by
  unfold toU64 W64; omega

theorem toU64_lt (w : Int) : toU64 w < W64 := by
  unfold toU64 W64; omega

theorem mul_bits_lt {bits : Nat} {w : Int} (hb : bits < 65536) (h0 : 0 ≤ w) (h1 : w < 2147483648) :
    w.toNat * bits < 2147483648 * 65536 :=
  calc w.toNat * bits ≤ 2147483648 * bits := Nat.mul_le_mul_right _ (by omega)
    _ < 2147483648 * 65536 := Nat.mul_lt_mul_of_pos_left hb (by omega)

theorem pixByteWidth_of_nonneg (bits : Nat) (w : Int) (hb : bits < 65536) (h0 : 0 ≤ w) (h1 : w < 2147483648) :
    pixByteWidth bits w = (w.toNat * bits + 7) / 8 := by
  unfold pixByteWidth
  rw [toU64_of_nonneg w h0 h1]
  have := mul_bits_lt hb h0 h1
  generalize w.toNat * bits = m at *
  unfold W64; omega

theorem pitch_of_nonneg (bits : Nat) (w : Int) (hb : bits < 65536) (h0 : 0 ≤ w) (h1 : w < 2147483648) :
    pitch bits w = pitchN bits w.toNat := by
  unfold pitch pitchN
  rw [pixByteWidth_of_nonneg bits w hb h0 h1]
  have := mul_bits_lt hb h0 h1
  generalize w.toNat * bits = m at *
  unfold W64; omega

theorem pitchN_law (bits w : Nat) :
    pitchN bits w % 4 = 0 ∧ w * bits ≤ 8 * pitchN bits w ∧ ∀ m, m % 4 = 0 → w * bits ≤ 8 * m → pitchN bits w ≤ m := by
  unfold pitchN
  generalize w * bits = k
  refine ⟨by omega, by omega, ?_⟩
  intro m hm hk; omega

theorem pixByteWidth_le_pitch (bits : Nat) (w : Int) : pixByteWidth bits w ≤ pitch bits w := by
  unfold pitch
  have : pixByteWidth bits w < W64 / 8 + 1 := by
    unfold pixByteWidth
    have := Nat.mod_lt ((toU64 w * bits) % W64 + 7) (by unfold W64; omega : W64 > 0)
    unfold W64 at *; omega
  unfold W64 at *; omega

end Op2.Bmp
