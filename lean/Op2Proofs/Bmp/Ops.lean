import Op2Proofs.Bmp.Normal
/-!
The public operations on an object with the reader's invariants (`Loaded`): none faults; the mutating ones return
`Loaded` objects again.
-/
namespace Op2.Bmp
open Op2

/-- the object `InvertScanLines` leaves -/
def flipped (f : Bmp) : Bmp :=
  { f with ih := { f.ih with height := -f.ih.height },
           pixels := (storedRows f.pixels (pitch f.ih.bitCount f.ih.width) f.ih.height.natAbs).reverse.flatten }

theorem invert_ok (f : Bmp) (hne : f.ih.height ≠ I32_MIN) (hr : f.ih.height < 2147483648)
    (hp : f.ih.height.natAbs * pitch f.ih.bitCount f.ih.width ≤ f.pixels.length) : invert f = .ok (flipped f) := by
  unfold invert
  rw [negI32_of_ne hne]
  simp only [absI32_neg hr, invertRows_ok _ _ _ hp]
  rfl

theorem flipped_flipped (f : Bmp) (hl : f.pixels.length = f.ih.height.natAbs * pitch f.ih.bitCount f.ih.width) :
    flipped (flipped f) = f := by
  obtain ⟨bh, ih, pal, px⟩ := f
  show Bmp.mk bh { ih with height := - -ih.height } pal
    (storedRows (storedRows px (pitch ih.bitCount ih.width) ih.height.natAbs).reverse.flatten (pitch ih.bitCount ih.width)
      (-ih.height).natAbs).reverse.flatten = _
  rw [Int.neg_neg, Int.natAbs_neg, storedRows_reversed _ _ _ (Nat.le_of_eq hl.symm), List.reverse_reverse,
    storedRows_flatten _ _ _ hl]

theorem absoluteHeight_of_ne (g : Bmp) (hne : g.ih.height ≠ I32_MIN) : absoluteHeight g = .ok g.ih.height.natAbs := by
  unfold absoluteHeight; rw [absI32_of_ne hne]

namespace Loaded
variable {f : Bmp}

theorem verifyPixelSize_ok (L : Loaded f) : verifyPixelSize f.ih.bitCount f.ih.width f.ih.height f.pixels.length = .ok () := by
  unfold verifyPixelSize
  simp only [L.abs]
  rw [if_pos (by rw [Nat.mod_eq_of_lt L.nowrap]; exact L.npix)]

theorem validate_ok (L : Loaded f) : validate f = .ok () := by
  unfold validate
  rw [if_neg (by simp [L.sig]), if_neg (by simp [L.valid]), if_neg (by simp [L.bits_le, L.palette_le])]
  exact L.verifyPixelSize_ok

theorem verifyPalette_ok (L : Loaded f) : verifyPalette f = .ok () := by
  unfold verifyPalette; rw [if_pos ⟨L.bits_le, L.palette_le⟩]

theorem absoluteHeight_ok (L : Loaded f) : absoluteHeight f = .ok f.ih.height.natAbs := absoluteHeight_of_ne f L.height_ne

theorem create_ok (L : Loaded f) :
    ImageHeader.create f.ih.width f.ih.height f.ih.bitCount = .ok (.default f.ih.width f.ih.height f.ih.bitCount) := by
  rw [ImageHeader.create_eq, if_pos ⟨L.valid.bits_mem, L.width_nonneg, L.height_ne⟩]

theorem write_ok (L : Loaded f) : write f = .ok (encode (normalize f)) := by
  have hsz : pixelStart f.ih.bitCount + f.pixels.length < W32 := by
    have := L.pow_bits_le; have := L.cap; unfold pixelStart sizeBmpHeader sizeImageHeader allocCap W32 at *; omega
  unfold write
  simp only
  rw [if_neg (by simp [L.bits_le]), if_neg (by simp [L.palette_le]), L.verifyPixelSize_ok]
  simp only [L.abs]
  rw [Nat.mod_eq_of_lt L.nowrap, L.fullPalette_length, ← L.npix, Nat.mod_eq_of_lt (by unfold W32 W64 at *; exact Nat.lt_trans hsz (by decide)),
    if_neg (by unfold W32 at *; exact Nat.not_lt.mpr (Nat.le_sub_one_of_lt hsz)), L.create_ok]
  simp only
  rw [writeRows_ok _ _ (pixByteWidth_le_pitch _ _) _ 0 f.pixels (by rw [Nat.zero_add]; exact L.rows_le)
    (by have := L.cap; unfold allocCap W64 at *; omega)]
  simp only [Nat.zero_mul, List.drop_zero, encode, normalize, canon, pixelStart,
    padded_length _ _ _ _ (pixByteWidth_le_pitch _ _) L.rows_le, ← L.rows, List.append_assoc]

theorem invert_ok (L : Loaded f) : invert f = .ok (flipped f) :=
  Bmp.invert_ok f L.height_ne L.ihRange.height.2 L.rows_le

theorem flipped (L : Loaded f) : Loaded (flipped f) := by
  have hlen : (Bmp.flipped f).pixels.length = f.pixels.length :=
    (reversed_length _ _ _ L.rows_le).trans L.rows.symm
  have hr := L.ihRange
  have hne := L.height_ne
  have hh : -2147483648 ≤ -f.ih.height ∧ -f.ih.height < 2147483648 := by
    have := hr.height; unfold I32_MIN at hne; omega
  obtain ⟨a1, a2, a3, a4, _, a6, a7, a8⟩ := L.valid
  refine ⟨L.bhRange, ⟨hr.headerSize, hr.width, hh, hr.planes, hr.bitCount, hr.compression, hr.imageSize, hr.xRes, hr.yRes,
    hr.used, hr.important⟩, L.sig, ⟨a1, a2, a3, a4, ?_, a6, a7, a8⟩, L.npal, ?_, hlen ▸ L.pixSize, hlen ▸ L.cap⟩
  · show -f.ih.height ≠ I32_MIN
    have := hr.height; unfold I32_MIN; omega
  · show _ = pitch f.ih.bitCount f.ih.width * (-f.ih.height).natAbs
    rw [hlen, L.npix, Int.natAbs_neg]

theorem swapped (L : Loaded f) : Loaded (swapRedAndBlue f) :=
  ⟨L.bhRange, L.ihRange, L.sig, L.valid, (List.length_map _).trans L.npal, L.npix, L.pixSize, L.cap⟩

theorem writeFile_ok (L : Loaded f) : writeFile f = .ok (encode (normalize f)) ∨ writeFile f = .err .refused := by
  unfold writeFile
  by_cases hc : f.ih.compression ≠ 0
  · right; rw [if_pos hc]
  · left; rw [if_neg hc, L.validate_ok]; exact L.write_ok

end Loaded
end Op2.Bmp
