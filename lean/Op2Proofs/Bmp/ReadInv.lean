import Op2Proofs.Bmp.Arith
import Op2Proofs.Codec
/-!
`Loaded`: what `ReadIndexed` guarantees about an object it returns.  `encode`: the bytes it reads such an object from.
-/
namespace Op2.Bmp
open Op2

/-- field ranges of a header that was read from bytes -/
structure ImageHeader.InRange (h : ImageHeader) : Prop where
  headerSize : h.headerSize < W32
  width : -2147483648 ≤ h.width ∧ h.width < 2147483648
  height : -2147483648 ≤ h.height ∧ h.height < 2147483648
  planes : h.planes < W16
  bitCount : h.bitCount < W16
  compression : h.compression < W32
  imageSize : h.imageSize < W32
  xRes : h.xRes < W32
  yRes : h.yRes < W32
  used : h.used < W32
  important : h.important < W32

structure BmpHeader.InRange (b : BmpHeader) : Prop where
  sig : b.sig.length = 2
  size : b.size < W32
  reserved1 : b.reserved1 < W16
  reserved2 : b.reserved2 < W16
  pixelOffset : b.pixelOffset < W32

/-- what the BMP reader guarantees about an object it returns -/
structure Loaded (f : Bmp) : Prop where
  bhRange : f.bh.InRange
  ihRange : f.ih.InRange
  sig : f.bh.sig = fileSignature
  valid : f.ih.Valid
  npal : f.palette.length = Rd.paletteCount f.ih
  npix : f.pixels.length = pitch f.ih.bitCount f.ih.width * f.ih.height.natAbs
  pixSize : Rd.pixelBytes f.bh = f.pixels.length
  cap : f.pixels.length ≤ allocCap

namespace ImageHeader.Valid
variable {h : ImageHeader}

theorem bits_mem (hv : h.Valid) : h.bitCount ∈ validBitCounts := hv.2.2.1
theorem width_nonneg (hv : h.Valid) : 0 ≤ h.width := hv.2.2.2.1
theorem height_ne (hv : h.Valid) : h.height ≠ I32_MIN := hv.2.2.2.2.1
theorem bits_le (hv : h.Valid) : h.bitCount ≤ 8 := hv.2.2.2.2.2.1
theorem used_le (hv : h.Valid) : h.used ≤ 2 ^ h.bitCount := hv.2.2.2.2.2.2.1

end ImageHeader.Valid

theorem valid_bits {h : ImageHeader} (hv : h.Valid) : h.bitCount = 1 ∨ h.bitCount = 4 ∨ h.bitCount = 8 := by
  have hm := hv.bits_mem
  have h8 := hv.bits_le
  simp only [validBitCounts, List.mem_cons, List.mem_nil_iff, or_false] at hm
  omega

theorem pow_bits_le {bits : Nat} (h : bits = 1 ∨ bits = 4 ∨ bits = 8) : 2 ^ bits ≤ 256 := by
  rcases h with e | e | e <;> rw [e] <;> decide

/-- at most `2^31 + 4` bytes, so `pitch · |height|` cannot wrap -/
theorem pitch_bound {h : ImageHeader} (hv : h.Valid) (hr : h.InRange) : pitch h.bitCount h.width ≤ 2147483652 := by
  have hb := valid_bits hv
  rw [pitch_of_nonneg _ _ (by omega) hv.width_nonneg hr.width.2]
  unfold pitchN
  have := hr.width.2
  rcases hb with e | e | e <;> rw [e] <;> omega

theorem pitch_mul_lt {h : ImageHeader} (hv : h.Valid) (hr : h.InRange) : pitch h.bitCount h.width * h.height.natAbs < W64 := by
  have := Nat.mul_le_mul (pitch_bound hv hr) (show h.height.natAbs ≤ 2147483648 by have := hr.height; omega)
  exact Nat.lt_of_le_of_lt this (by decide)

namespace Loaded
variable {f : Bmp}

theorem height_ne (L : Loaded f) : f.ih.height ≠ I32_MIN := L.valid.height_ne
theorem width_nonneg (L : Loaded f) : 0 ≤ f.ih.width := L.valid.width_nonneg
theorem bits (L : Loaded f) : f.ih.bitCount = 1 ∨ f.ih.bitCount = 4 ∨ f.ih.bitCount = 8 := valid_bits L.valid
theorem bits_le (L : Loaded f) : f.ih.bitCount ≤ 8 := L.valid.bits_le

theorem pow_bits_le (L : Loaded f) : 2 ^ f.ih.bitCount ≤ 256 := Bmp.pow_bits_le L.bits

theorem abs (L : Loaded f) : absI32 f.ih.height = .ok f.ih.height.natAbs := absI32_of_ne L.height_ne

theorem nowrap (L : Loaded f) : pitch f.ih.bitCount f.ih.width * f.ih.height.natAbs < W64 := by
  have := L.npix; have := L.cap; unfold allocCap W64 at *; omega

theorem palette_le (L : Loaded f) : f.palette.length ≤ 2 ^ f.ih.bitCount := by
  rw [L.npal]; unfold Rd.paletteCount
  have := L.valid.used_le
  split <;> omega

theorem fullPalette_length (L : Loaded f) : (fullPalette f.ih.bitCount f.palette).length = 2 ^ f.ih.bitCount := by
  unfold fullPalette
  rw [List.length_append, List.length_replicate]
  have := L.palette_le
  omega

theorem rows (L : Loaded f) : f.pixels.length = f.ih.height.natAbs * pitch f.ih.bitCount f.ih.width := by
  rw [L.npix, Nat.mul_comm]

theorem rows_le (L : Loaded f) : f.ih.height.natAbs * pitch f.ih.bitCount f.ih.width ≤ f.pixels.length :=
  Nat.le_of_eq L.rows.symm

end Loaded

/-- the file that reads back as exactly `g`: `g`'s own two headers, palette and pixels as they stand.  `write` does not
    produce it — it regenerates the headers and fills palette and padding: `write f = encode (normalize f)`. -/
def encode (g : Bmp) : Bytes := g.bh.enc ++ g.ih.enc ++ encPalette g.palette ++ g.pixels

theorem BmpHeader.enc_length (b : BmpHeader) (hs : b.sig.length = 2) : b.enc.length = 14 := by
  simp only [BmpHeader.enc, List.length_append, Parser.encU16_length, Parser.encU32_length, hs]

theorem ImageHeader.enc_length (h : ImageHeader) : h.enc.length = 40 := by
  simp only [ImageHeader.enc, encI32, List.length_append, Parser.encU16_length, Parser.encU32_length]

theorem encPalette_length (p : List Color) : (encPalette p).length = 4 * p.length :=
  Codec.flatMap_length_const p fun _ _ => rfl

theorem encode_length {g : Bmp} (hs : g.bh.sig.length = 2) :
    (encode g).length = 54 + 4 * g.palette.length + g.pixels.length := by
  unfold encode
  simp only [List.length_append, BmpHeader.enc_length _ hs, ImageHeader.enc_length, encPalette_length]

end Op2.Bmp
