import Op2Proofs.Bmp.Reader
/-!
`ReadIndexed` run on the output of `WriteIndexed` returns `normalize f`; objects in normal form — among them everything
the three `CreateIndexed` overloads return, given clean row padding — come back unchanged.
-/
namespace Op2.Bmp
open Op2

theorem read_written {f : Bmp} (L : Loaded f) : Bmp.read (encode (normalize f)) = .ok (normalize f) := by
  apply read_encode (normalize_loaded L)
  rw [normalize_pixels_length L]
  show 54 + 4 * (fullPalette f.ih.bitCount f.palette).length + f.pixels.length ≤ pixelStart f.ih.bitCount + _
  rw [L.fullPalette_length, Nat.mul_comm]
  exact Nat.add_le_add_left (Nat.le_of_eq (normalize_pixels_length L).symm) _

theorem write_read_id {f : Bmp} (L : Loaded f) (hn : normalize f = f) : ∃ wr, write f = .ok wr ∧ Bmp.read wr = .ok f := by
  refine ⟨_, L.write_ok, ?_⟩
  rw [read_written L, hn]

/-- `CreateIndexed` never reaches `std::abs(INT32_MIN)`: `ImageHeader::Create` has refused that height before -/
theorem createShape_eq (bits w : Nat) (h : Int) :
    createShape bits w h =
      if bits ∈ validBitCounts ∧ 0 ≤ Op2.i32 w ∧ h ≠ I32_MIN then
        if ¬ bits ≤ 8 then .err .format
        else if pitch bits (Op2.i32 w) * h.natAbs % W64 > allocCap then .err .alloc
        else if pixelStart bits + pitch bits (Op2.i32 w) * h.natAbs % W64 > W32 - 1 then .err .refused
        else .ok ⟨BmpHeader.create (pixelStart bits + pitch bits (Op2.i32 w) * h.natAbs % W64) (pixelStart bits),
                  .default (Op2.i32 w) h bits, 2 ^ bits, pitch bits (Op2.i32 w) * h.natAbs % W64⟩
      else .err .format := by
  unfold createShape
  rw [ImageHeader.create_eq]
  by_cases hc : bits ∈ validBitCounts ∧ 0 ≤ Op2.i32 w ∧ h ≠ I32_MIN
  · simp only [if_pos hc, absI32_of_ne hc.2.2]
    rfl
  · simp only [if_neg hc]

theorem ite_isFault {α : Type} {c : Prop} [Decidable c] {a b : Out α} (ha : a.isFault = false) (hb : b.isFault = false) :
    (if c then a else b).isFault = false := by
  split <;> assumption

theorem createShape_isFault (bits w : Nat) (h : Int) : (createShape bits w h).isFault = false := by
  rw [createShape_eq]
  exact ite_isFault (ite_isFault rfl (ite_isFault rfl (ite_isFault rfl rfl))) rfl

theorem createShape_eq_ok {bits w : Nat} {h : Int} {s : Shape} (hh : -2147483648 ≤ h ∧ h < 2147483648) :
    createShape bits w h = .ok s ↔
      Geometry bits (Op2.i32 w) h ∧ pitch bits (Op2.i32 w) * h.natAbs ≤ allocCap ∧
      s = ⟨BmpHeader.create (pixelStart bits + pitch bits (Op2.i32 w) * h.natAbs) (pixelStart bits),
           .default (Op2.i32 w) h bits, 2 ^ bits, pitch bits (Op2.i32 w) * h.natAbs⟩ := by
  rw [createShape_eq]
  constructor
  · intro hs
    split at hs
    · rename_i hc
      split at hs
      · cases hs
      · rename_i h8
        have G : Geometry bits (Op2.i32 w) h :=
          ⟨by have := hc.1; simp only [validBitCounts, List.mem_cons, List.mem_nil_iff, or_false] at this; omega,
           ⟨hc.2.1, (i32_range w).2⟩, by have := hc.2.2; unfold I32_MIN at this; omega⟩
        rw [Nat.mod_eq_of_lt G.nowrap] at hs
        split at hs
        · cases hs
        · split at hs
          · cases hs
          · rename_i hcap _
            cases hs
            exact ⟨G, Nat.le_of_not_lt hcap, rfl⟩
    · cases hs
  · rintro ⟨G, hcap, rfl⟩
    have hv := G.valid
    have h8 : bits ≤ 8 := hv.bits_le
    have hpow := pow_bits_le G.bits
    rw [if_pos ⟨hv.bits_mem, hv.width_nonneg, hv.height_ne⟩, if_neg (Decidable.not_not.mpr h8),
      Nat.mod_eq_of_lt G.nowrap, if_neg (Nat.not_lt.mpr hcap),
      if_neg (by unfold pixelStart sizeBmpHeader sizeImageHeader W32; unfold allocCap at hcap; omega)]

theorem shape_npal {bits w : Nat} {h : Int} {s : Shape} (hs : createShape bits w h = .ok s)
    (hh : -2147483648 ≤ h ∧ h < 2147483648) : s.npal = 2 ^ bits := by
  obtain ⟨_, _, rfl⟩ := (createShape_eq_ok hh).mp hs
  rfl

theorem shape_canon {bits w : Nat} {h : Int} {s : Shape} (hs : createShape bits w h = .ok s)
    (hh : -2147483648 ≤ h ∧ h < 2147483648) {pal : List Color} {px : Bytes} (hpal : pal.length = 2 ^ bits)
    (hpx : px.length = s.npix) :
    (⟨s.bh, s.ih, pal, px⟩ : Bmp) = canon bits (Op2.i32 w) h pal px ∧ Loaded (canon bits (Op2.i32 w) h pal px) := by
  obtain ⟨G, hcap, rfl⟩ := (createShape_eq_ok hh).mp hs
  exact ⟨by unfold canon; rw [hpx], canon_loaded G hpal hpx (hpx ▸ hcap)⟩

theorem shape_rt {bits w : Nat} {h : Int} {s : Shape} (hs : createShape bits w h = .ok s)
    (hh : -2147483648 ≤ h ∧ h < 2147483648) (pal : List Color) (px : Bytes)
    (hpal : pal.length = 2 ^ bits) (hpx : px.length = s.npix)
    (hp : ∀ r ∈ storedRows px (pitch s.ih.bitCount s.ih.width) s.ih.height.natAbs,
      r.drop (pixByteWidth s.ih.bitCount s.ih.width) = zeros (pitch s.ih.bitCount s.ih.width - pixByteWidth s.ih.bitCount s.ih.width)) :
    ∃ wr, write ⟨s.bh, s.ih, pal, px⟩ = .ok wr ∧ Bmp.read wr = .ok ⟨s.bh, s.ih, pal, px⟩ := by
  obtain ⟨e, L⟩ := shape_canon hs hh hpal hpx
  have es : s.ih = .default (Op2.i32 w) h bits := congrArg Bmp.ih e
  rw [es] at hp
  rw [e]
  exact write_read_id L (normalize_canon L hpal hp)

theorem shape_rt_zeros {bits w : Nat} {h : Int} {s : Shape} (hs : createShape bits w h = .ok s)
    (hh : -2147483648 ≤ h ∧ h < 2147483648) (pal : List Color) (hpal : pal.length = 2 ^ bits) :
    ∃ wr, write ⟨s.bh, s.ih, pal, zeros s.npix⟩ = .ok wr ∧ Bmp.read wr = .ok ⟨s.bh, s.ih, pal, zeros s.npix⟩ := by
  have hz : (zeros s.npix).length = s.npix := List.length_replicate
  have hn := (shape_canon hs hh hpal hz).2.rows
  exact shape_rt hs hh pal (zeros s.npix) hpal hz (zeros_clean _ _ _ _ (by
    obtain ⟨_, _, rfl⟩ := (createShape_eq_ok hh).mp hs
    exact Nat.le_of_eq (hz ▸ hn).symm))

theorem create1_ok_shape {bits w : Nat} {h : Int} {f : Bmp} (hc : create1 bits w h = .ok f) :
    ∃ s, createShape bits w h = .ok s ∧ f = ⟨s.bh, s.ih, List.replicate s.npal Color.black, zeros s.npix⟩ := by
  unfold create1 at hc
  split at hc
  · rename_i s hs; cases hc; exact ⟨s, hs, rfl⟩
  · cases hc
  · cases hc

theorem create2_ok_shape {bits w : Nat} {h : Int} {pal : List Color} {f : Bmp} (hc : create2 bits w h pal = .ok f) :
    ∃ s, createShape bits w h = .ok s ∧ pal.length ≤ 2 ^ bits ∧
      f = ⟨s.bh, s.ih, pal ++ (List.replicate s.npal Color.black).drop pal.length, zeros s.npix⟩ := by
  unfold create2 at hc
  split at hc
  · cases hc
  · split at hc
    · cases hc
    · rename_i hp
      split at hc
      · rename_i f1 h1
        obtain ⟨s, hs, rfl⟩ := create1_ok_shape h1
        cases hc
        exact ⟨s, hs, Nat.le_of_not_lt hp, rfl⟩
      · rename_i o ho
        exact (ho _ hc).elim

theorem create3_ok_shape {bits w : Nat} {h : Int} {pal : List Color} {px : Bytes} {f : Bmp} (hc : create3 bits w h pal px = .ok f) :
    ∃ s, createShape bits w h = .ok s ∧ pal.length ≤ 2 ^ bits ∧
      f = ⟨s.bh, s.ih, pal ++ (List.replicate s.npal Color.black).drop pal.length, px⟩ ∧
      verifyPixelSize s.ih.bitCount s.ih.width s.ih.height px.length = .ok () := by
  unfold create3 at hc
  split at hc
  · rename_i f2 h2
    obtain ⟨s, hs, hp, rfl⟩ := create2_ok_shape h2
    simp only at hc
    split at hc
    · rename_i hv; cases hc; exact ⟨s, hs, hp, rfl, hv⟩
    · cases hc
    · cases hc
  · rename_i o ho
    exact (ho _ hc).elim

theorem padded_palette_length {pal : List Color} {n m : Nat} (hp : pal.length ≤ m) (hn : n = m) :
    (pal ++ (List.replicate n Color.black).drop pal.length).length = m := by
  subst hn
  rw [List.length_append, List.length_drop, List.length_replicate]
  omega

theorem verify_npix {bits w : Nat} {h : Int} {s : Shape} (hs : createShape bits w h = .ok s)
    (hh : -2147483648 ≤ h ∧ h < 2147483648) {n : Nat}
    (hv : verifyPixelSize s.ih.bitCount s.ih.width s.ih.height n = .ok ()) : n = s.npix := by
  obtain ⟨G, _, rfl⟩ := (createShape_eq_ok hh).mp hs
  unfold verifyPixelSize at hv
  simp only [absI32_of_ne G.valid.height_ne] at hv
  split at hv
  · rename_i e; rw [e]; exact Nat.mod_eq_of_lt G.nowrap
  · cases hv

end Op2.Bmp
