import Op2Model.Str
/-!
# The folded "comes before" relation is a strict weak ordering (C19); the two case folds

The order laws are generic in the folding function `f`; nothing there depends on what `tolower` does.  `lowerI`
(`tolower` as an `int`) and `upperB` (`toupper` stored back into a `char`) identify the same bytes, so
`toUpper a = toUpper b` is `eqCI a b`.
-/
namespace Op2.Str
variable {α : Type} (f : α → Int)

theorem ltF_map : ∀ xs ys : List α, ltF f xs ys = ltF id (xs.map f) (ys.map f)
  | [], [] => rfl
  | [], _ :: _ => rfl
  | _ :: _, [] => rfl
  | a :: as, b :: bs => by simp only [ltF, List.map_cons, id, ltF_map as bs]

theorem eqF_iff_map : ∀ xs ys : List α, eqF f xs ys = true ↔ xs.map f = ys.map f
  | [], [] => by simp [eqF]
  | [], _ :: _ => by simp [eqF]
  | _ :: _, [] => by simp [eqF]
  | a :: as, b :: bs => by
    simp only [eqF, Bool.and_eq_true, beq_iff_eq, List.map_cons, List.cons.injEq, eqF_iff_map as bs]

theorem eqF_refl (xs : List α) : eqF f xs xs = true := (eqF_iff_map f xs xs).mpr rfl

theorem eqF_symm (xs ys : List α) (h : eqF f xs ys = true) : eqF f ys xs = true :=
  (eqF_iff_map f ys xs).mpr ((eqF_iff_map f xs ys).mp h).symm

theorem eqF_trans (xs ys zs : List α) (h1 : eqF f xs ys = true) (h2 : eqF f ys zs = true) : eqF f xs zs = true :=
  (eqF_iff_map f xs zs).mpr (((eqF_iff_map f xs ys).mp h1).trans ((eqF_iff_map f ys zs).mp h2))

theorem eqF_comm (xs ys : List α) : eqF f xs ys = eqF f ys xs :=
  Bool.eq_iff_iff.mpr ⟨eqF_symm f xs ys, eqF_symm f ys xs⟩

theorem ltF_congr (f g : α → Int) (a c : List α) (ha : ∀ x ∈ a, f x = g x) (hc : ∀ x ∈ c, f x = g x) :
    ltF f a c = ltF g a c := by
  rw [ltF_map f, ltF_map g, List.map_congr_left ha, List.map_congr_left hc]

theorem eqF_congr (f g : α → Int) (a c : List α) (ha : ∀ x ∈ a, f x = g x) (hc : ∀ x ∈ c, f x = g x) :
    eqF f a c = eqF g a c :=
  Bool.eq_iff_iff.mpr (by rw [eqF_iff_map, eqF_iff_map, List.map_congr_left ha, List.map_congr_left hc])

theorem ltF_irrefl : ∀ xs : List α, ltF f xs xs = false
  | [] => rfl
  | a :: as => by simp [ltF, ltF_irrefl as]

theorem ltF_cons (a b : α) (as bs : List α) :
    ltF f (a :: as) (b :: bs) = true ↔ f a < f b ∨ (f a = f b ∧ ltF f as bs = true) := by
  simp only [ltF]
  split
  · rename_i h; exact ⟨fun _ => .inl h, fun _ => rfl⟩
  · rename_i h
    split
    · rename_i h2
      exact ⟨fun e => (nomatch e), fun e => e.elim (absurd · h) fun e => absurd h2 (by rw [e.1]; exact Int.lt_irrefl _)⟩
    · rename_i h2
      exact ⟨fun e => .inr ⟨Int.le_antisymm (Int.not_lt.mp h2) (Int.not_lt.mp h), e⟩, fun e => e.elim (absurd · h) (·.2)⟩

theorem ltF_trans : ∀ xs ys zs : List α, ltF f xs ys = true → ltF f ys zs = true → ltF f xs zs = true
  | [], [], _, h, _ => nomatch h
  | [], _ :: _, [], _, h => nomatch h
  | [], _ :: _, _ :: _, _, _ => rfl
  | _ :: _, [], _, h, _ => nomatch h
  | _ :: _, _ :: _, [], _, h => nomatch h
  | a :: as, b :: bs, c :: cs, h1, h2 => by
    rw [ltF_cons] at h1 h2 ⊢
    rcases h1 with h1 | ⟨e1, h1⟩ <;> rcases h2 with h2 | ⟨e2, h2⟩
    · exact .inl (Int.lt_trans h1 h2)
    · exact .inl (e2 ▸ h1)
    · exact .inl (e1 ▸ h2)
    · exact .inr ⟨e1.trans e2, ltF_trans as bs cs h1 h2⟩

theorem ltF_asymm (xs ys : List α) (h : ltF f xs ys = true) : ltF f ys xs = false :=
  Bool.eq_false_iff.mpr fun h2 => Bool.false_ne_true ((ltF_irrefl f xs).symm.trans (ltF_trans f xs ys xs h h2))

theorem incomp_iff_eqF : ∀ xs ys : List α, (ltF f xs ys = false ∧ ltF f ys xs = false) ↔ eqF f xs ys = true
  | [], [] => by simp [ltF, eqF]
  | [], _ :: _ => by simp [ltF, eqF]
  | _ :: _, [] => by simp [ltF, eqF]
  | a :: as, b :: bs => by
    rw [← Bool.not_eq_true, ← Bool.not_eq_true, ltF_cons, ltF_cons, eqF, Bool.and_eq_true, beq_iff_eq,
      ← incomp_iff_eqF as bs, ← Bool.not_eq_true, ← Bool.not_eq_true]
    constructor
    · rintro ⟨h1, h2⟩
      have e : f a = f b := by
        have := fun h => h1 (.inl h); have := fun h => h2 (.inl h); omega
      exact ⟨e, fun h => h1 (.inr ⟨e, h⟩), fun h => h2 (.inr ⟨e.symm, h⟩)⟩
    · rintro ⟨e, h1, h2⟩
      exact ⟨fun h => h.elim (fun h => by omega) (fun h => h1 h.2), fun h => h.elim (fun h => by omega) (fun h => h2 h.2)⟩

/-- together with `ltF_irrefl`, `ltF_trans` this makes `ltF f` a strict weak ordering -/
theorem incomp_trans (xs ys zs : List α)
    (h1 : ltF f xs ys = false ∧ ltF f ys xs = false) (h2 : ltF f ys zs = false ∧ ltF f zs ys = false) :
    ltF f xs zs = false ∧ ltF f zs xs = false :=
  (incomp_iff_eqF f xs zs).mpr (eqF_trans f xs ys zs ((incomp_iff_eqF f xs ys).mp h1) ((incomp_iff_eqF f ys zs).mp h2))

theorem ltF_of_eqF_left (a b c : List α) (hab : ltF f a b = true) (hac : eqF f a c = true) :
    ltF f c b = true := by
  rw [ltF_map, ← (eqF_iff_map f a c).mp hac, ← ltF_map]
  exact hab

theorem ltF_of_eqF_right (a b c : List α) (hab : ltF f a b = true) (hbc : eqF f b c = true) :
    ltF f a c = true := by
  rw [ltF_map, ← (eqF_iff_map f b c).mp hbc, ← ltF_map]
  exact hab

theorem lowerI_cases (x : UInt8) :
    (65 ≤ x.toNat ∧ x.toNat ≤ 90 ∧ lowerI x = x.toNat + 32) ∨ (x.toNat = 255 ∧ lowerI x = -1) ∨
    (¬ (65 ≤ x.toNat ∧ x.toNat ≤ 90) ∧ x.toNat ≠ 255 ∧ lowerI x = x.toNat) := by
  unfold lowerI
  split
  · rename_i h; exact .inl ⟨h.1, h.2, by simp⟩
  · rename_i h
    split
    · rename_i h2; exact .inr (.inl ⟨h2, rfl⟩)
    · rename_i h2; exact .inr (.inr ⟨h, h2, rfl⟩)

theorem upperB_cases (x : UInt8) :
    (97 ≤ x.toNat ∧ x.toNat ≤ 122 ∧ (upperB x).toNat + 32 = x.toNat) ∨ (¬ (97 ≤ x.toNat ∧ x.toNat ≤ 122) ∧ upperB x = x) := by
  unfold upperB
  split
  · rename_i h; exact .inl ⟨h.1, h.2, by rw [UInt8.toNat_ofNat']; have := x.toNat_lt; omega⟩
  · rename_i h; exact .inr ⟨h, rfl⟩

theorem lowerI_upperB (x : UInt8) : lowerI (upperB x) = lowerI x := by
  rcases upperB_cases x with ⟨h1, h2, h3⟩ | ⟨_, h⟩
  · have := lowerI_cases x; have := lowerI_cases (upperB x); omega
  · rw [h]

theorem upperB_not_lower (x : UInt8) : ¬ (97 ≤ (upperB x).toNat ∧ (upperB x).toNat ≤ 122) := by
  rcases upperB_cases x with ⟨h1, h2, h3⟩ | ⟨h1, h⟩
  · omega
  · rw [h]; exact h1

theorem lowerI_inj {u v : UInt8} (hu : ¬ (97 ≤ u.toNat ∧ u.toNat ≤ 122)) (hv : ¬ (97 ≤ v.toNat ∧ v.toNat ≤ 122))
    (h : lowerI u = lowerI v) : u = v := by
  apply UInt8.toNat_inj.mp
  have := lowerI_cases u; have := lowerI_cases v
  omega

/-- `tolower` factors through `toupper` and is injective on its image: the two folds identify the same bytes -/
theorem upperB_eq_iff (x y : UInt8) : upperB x = upperB y ↔ lowerI x = lowerI y :=
  ⟨fun h => by rw [← lowerI_upperB x, h, lowerI_upperB],
   fun h => lowerI_inj (upperB_not_lower x) (upperB_not_lower y) (by rw [lowerI_upperB, lowerI_upperB, h])⟩

theorem upperB_idem (x : UInt8) : upperB (upperB x) = upperB x := by
  rcases upperB_cases (upperB x) with ⟨h1, h2, _⟩ | ⟨_, h⟩
  · exact absurd ⟨h1, h2⟩ (upperB_not_lower x)
  · exact h

/-- a byte below 'A' ('/' and '.' in particular) is alone in its class, for either fold -/
theorem lowerI_eq_low {x k : UInt8} (hk : k.toNat < 65) : lowerI x = lowerI k ↔ x = k := by
  refine ⟨fun h => UInt8.toNat_inj.mp ?_, fun h => by rw [h]⟩
  have := lowerI_cases x; have := lowerI_cases k
  omega

theorem upperB_eq_low {x k : UInt8} (hk : k.toNat < 65) : upperB x = k ↔ x = k := by
  have hkk : upperB k = k := by
    rcases upperB_cases k with ⟨h1, _, _⟩ | ⟨_, h⟩
    · omega
    · exact h
  rw [← hkk, upperB_eq_iff, hkk]
  exact lowerI_eq_low hk

theorem toUpper_eq_iff (a b : Bytes) : toUpper a = toUpper b ↔ eqCI a b = true := by
  unfold eqCI toUpper
  rw [eqF_iff_map]
  induction a generalizing b with
  | nil => cases b <;> simp
  | cons x a ih =>
    cases b with
    | nil => simp
    | cons y b => simp only [List.map_cons, List.cons.injEq, upperB_eq_iff, ih]

end Op2.Str
