/-!
# Reasoning along `x >>= k` and `if c then .error e else m` in `Except ε`

A function that propagates errors is a chain of binds and refusals; these lemmas say what such a chain returns, step
by step.  (In `namespace Op2.Except`: written `Except.bind_eq_ok` from anywhere under `Op2`.)
-/
namespace Op2.Except

theorem ok_bind {ε α β : Type} (a : α) (k : α → Except ε β) : (Except.ok a >>= k) = k a := rfl

theorem refuse_bind {ε α β : Type} {c : Prop} [Decidable c] {e : ε} {m : Except ε α} (k : α → Except ε β) :
    ((if c then .error e else m) >>= k) = if c then .error e else m >>= k := by
  split <;> rfl

theorem bind_eq_ok {ε α β : Type} {x : Except ε α} {k : α → Except ε β} {b : β} :
    (x >>= k) = .ok b ↔ ∃ a, x = .ok a ∧ k a = .ok b := by
  cases x with
  | error e => exact ⟨fun h => (nomatch h), fun ⟨_, h, _⟩ => (nomatch h)⟩
  | ok a => exact ⟨fun h => ⟨a, rfl, h⟩, fun ⟨_, h, hk⟩ => by cases h; exact hk⟩

theorem refuse_eq_ok {ε α : Type} {c : Prop} [Decidable c] {e : ε} {m : Except ε α} {a : α} :
    (if c then .error e else m) = .ok a ↔ ¬ c ∧ m = .ok a := by
  by_cases h : c
  · rw [if_pos h]; exact ⟨fun h' => (nomatch h'), fun h' => absurd h h'.1⟩
  · rw [if_neg h]; exact ⟨fun h' => ⟨h, h'⟩, fun h' => h'.2⟩

theorem map_eq_ok {ε α β : Type} {f : α → β} {x : Except ε α} {b : β} :
    x.map f = .ok b ↔ ∃ a, x = .ok a ∧ f a = b := by
  cases x with
  | error e => exact ⟨fun h => (nomatch h), fun ⟨_, h, _⟩ => (nomatch h)⟩
  | ok a => exact ⟨fun h => ⟨a, rfl, Except.ok.inj h⟩, fun ⟨_, h, hf⟩ => by cases h; rw [← hf]; rfl⟩

end Op2.Except
