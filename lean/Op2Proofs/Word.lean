import Op2Model.Basic
/-!
# Fixed-width arithmetic on values where nothing wraps

The guards' `a - b` in 64 bits when it does not borrow; `x & ~3` (any width) is `x` rounded down to a multiple of four.
-/
namespace Op2

theorem u32_of_lt {x : Nat} (h : x < W32) : u32 x = x := Nat.mod_eq_of_lt h
theorem u64_of_lt {x : Nat} (h : x < W64) : u64 x = x := Nat.mod_eq_of_lt h

theorem u64_sub {a b : Nat} (hb : b ≤ a) (ha : a < W64) : u64 (W64 + a - b) = a - b := by
  rw [u64, Nat.add_sub_assoc hb, Nat.add_mod_left, Nat.mod_eq_of_lt (Nat.lt_of_le_of_lt (Nat.sub_le a b) ha)]

/-- `x & ~3` at width `k + 2`: the mask is `2^k - 1` shifted left by two, so bit `i` survives exactly when `2 ≤ i` -/
theorem and_mask_eq (k : Nat) (x : Nat) (h : x < 2 ^ (k + 2)) : x &&& ((2 ^ k - 1) <<< 2) = x / 4 * 4 := by
  apply Nat.eq_of_testBit_eq
  intro i
  rw [Nat.testBit_and, Nat.testBit_shiftLeft, Nat.testBit_two_pow_sub_one]
  have e2 : x / 4 * 4 = (x >>> 2) <<< 2 := by
    rw [Nat.shiftLeft_eq, Nat.shiftRight_eq_div_pow]
  rw [e2, Nat.testBit_shiftLeft, Nat.testBit_shiftRight]
  by_cases h2 : 2 ≤ i
  · have : 2 + (i - 2) = i := by omega
    simp only [h2, decide_true, Bool.true_and, this]
    by_cases h3 : i - 2 < k
    · simp [h3]
    · simp only [h3, decide_false, Bool.and_false]
      have : x < 2 ^ i := by
        have : (2:Nat) ^ (k + 2) ≤ 2 ^ i := Nat.pow_le_pow_right (by decide) (by omega)
        omega
      exact (Nat.testBit_lt_two_pow this).symm
  · simp [h2]

theorem and_mask32 (x : Nat) (h : x < 4294967296) : x &&& 4294967292 = x / 4 * 4 := by
  have e : (4294967292 : Nat) = (2 ^ 30 - 1) <<< 2 := by decide
  rw [e]; exact and_mask_eq 30 x (by simpa using h)

theorem and_mask64 (x : Nat) (h : x < 18446744073709551616) : x &&& 18446744073709551612 = x / 4 * 4 := by
  have e : (18446744073709551612 : Nat) = (2 ^ 62 - 1) <<< 2 := by decide
  rw [e]; exact and_mask_eq 62 x (by simpa using h)

end Op2
