import Op2Model.Map
import Op2Proofs.ParserExact
/-!
# The map format: which bytes each reader accepts, and what it returns for them

One equivalence per parser of `Op2Model.Map`: `Exact` for the parts; for `ReadMapBeginning` and `ReadMap` the file as a
function of the map and of the two words the reader does not keep (`beginOf`, `fileOf`).  Each proof rewrites the success
of the parser with the equivalences of its parts (`bind_eq_ok` …); the two directions are then one pattern and one tuple,
a triple "value, rest, ⟨facts, bytes⟩" per `bind` in the order of the parser's text.
-/
namespace Op2.Map
open Op2 Op2.Parser

theorem encU32s_eq (vs : List Nat) : encU32s vs = vs.flatMap encU32 := rfl

theorem exact_rU32 : Exact rU32 encU32 (· < W32) := exact_u32

theorem exact_words (n : Nat) : Exact (many rU32 n) encU32s (fun vs => vs.length = n ∧ ∀ v ∈ vs, v < W32) :=
  exact_many exact_rU32 n

theorem exact_pBlobs (sz : Nat) : Exact (pBlobs sz) encBlobs (fun bs => bs.length < W32 ∧ ∀ b ∈ bs, b.length = sz) := by
  intro xs bs r
  simp only [pBlobs, encBlobs, bind_eq_ok, exact_rU32 _ _ _, (exact_many (exact_take sz) _) _ _ _, List.append_assoc]
  constructor
  · rintro ⟨n, _, ⟨hn, rfl⟩, ⟨rfl, hall⟩, rfl⟩; exact ⟨⟨hn, hall⟩, rfl⟩
  · rintro ⟨⟨hn, hall⟩, rfl⟩; exact ⟨_, _, ⟨hn, rfl⟩, ⟨rfl, hall⟩, rfl⟩

def Source.WF (s : Source) : Prop := s.name.length ≤ maxNameLen ∧ s.numTiles < W32 ∧ (s.name.length = 0 → s.numTiles = 0)

theorem exact_pSource : Exact pSource encSource Source.WF := by
  intro xs s r
  simp only [pSource, encSource, bind_eq_ok, guard_eq_ok, exact_rU32 _ _ _, exact_take _ _ _ _, id_eq, decide_eq_true_eq,
    List.append_assoc]
  constructor
  · rintro ⟨len, _, ⟨-, rfl⟩, name, _, ⟨rfl, rfl⟩, _, _, ⟨hl, rfl⟩, h⟩
    by_cases h0 : name.length = 0
    · rw [if_pos h0, pure_eq_ok] at h
      obtain ⟨rfl, rfl⟩ := h
      exact ⟨⟨hl, (by decide : 0 < W32), fun _ => rfl⟩, by simp [h0]⟩
    · simp only [if_neg h0, bind_eq_ok, pure_eq_ok, exact_rU32 _ _ _] at h
      obtain ⟨c, _, ⟨hc, rfl⟩, rfl, rfl⟩ := h
      exact ⟨⟨hl, hc, fun hz => absurd hz h0⟩, by simp [h0]⟩
  · rintro ⟨⟨hl, hn, hz⟩, rfl⟩
    refine ⟨_, _, ⟨Nat.lt_of_le_of_lt hl (by decide), rfl⟩, _, _, ⟨rfl, rfl⟩, (), _, ⟨hl, rfl⟩, ?_⟩
    by_cases h0 : s.name.length = 0
    · rw [if_pos h0, if_pos h0, pure_eq_ok, ← hz h0]; exact ⟨rfl, rfl⟩
    · rw [if_neg h0, if_neg h0, exact_rU32.bind_eq hn]; rfl

def Group.WF (g : Group) : Prop :=
  g.w < W32 ∧ g.h < W32 ∧ g.idx.length = u32 (g.w * g.h) ∧ (∀ i ∈ g.idx, i < W32) ∧ g.name.length < W32

theorem exact_pGroup : Exact pGroup encGroup Group.WF := by
  intro xs g r
  simp only [pGroup, encGroup, bind_eq_ok, pure_eq_ok, exact_rU32 _ _ _, exact_words _ _ _ _, exact_take _ _ _ _, id_eq,
    List.append_assoc]
  constructor
  · rintro ⟨w, _, ⟨hw, rfl⟩, h, _, ⟨hh, rfl⟩, idx, _, ⟨⟨hl, hi⟩, rfl⟩, len, _, ⟨hn, rfl⟩, name, _, ⟨rfl, rfl⟩, rfl, rfl⟩
    exact ⟨⟨hw, hh, hl, hi, hn⟩, rfl⟩
  · rintro ⟨⟨hw, hh, hl, hi, hn⟩, rfl⟩
    exact ⟨_, _, ⟨hw, rfl⟩, _, _, ⟨hh, rfl⟩, _, _, ⟨⟨hl, hi⟩, rfl⟩, _, _, ⟨hn, rfl⟩, _, _, ⟨rfl, rfl⟩, rfl, rfl⟩

/-- `ReadTileGroups` keeps the count and the groups; the word between them may be anything -/
theorem pGroups_eq_ok {xs r : Bytes} {gs : List Group} : pGroups xs = .ok (gs, r) ↔
    (gs.length < W32 ∧ ∀ g ∈ gs, g.WF) ∧ ∃ unk, unk < W32 ∧ xs = encU32 gs.length ++ encU32 unk ++ gs.flatMap encGroup ++ r := by
  simp only [pGroups, bind_eq_ok, exact_rU32 _ _ _, (exact_many exact_pGroup _) _ _ _, List.append_assoc]
  constructor
  · rintro ⟨n, _, ⟨hn, rfl⟩, unk, _, ⟨hu, rfl⟩, ⟨rfl, hg⟩, rfl⟩; exact ⟨⟨hn, hg⟩, unk, hu, rfl⟩
  · rintro ⟨⟨hn, hg⟩, unk, hu, rfl⟩; exact ⟨_, _, ⟨hn, rfl⟩, unk, _, ⟨hu, rfl⟩, ⟨rfl, hg⟩, rfl⟩

theorem pVersionTag_eq_ok {last : Nat} {xs r : Bytes} {u : Unit} :
    pVersionTag last xs = .ok (u, r) ↔ (minMapVersion ≤ last ∧ last < W32) ∧ xs = encU32 last ++ r := by
  simp only [pVersionTag, bind_eq_ok, guard_eq_ok, exact_rU32 _ _ _, decide_eq_true_eq, beq_iff_eq]
  constructor
  · rintro ⟨_, _, ⟨h2, rfl⟩, _, _, ⟨h1, rfl⟩, rfl, rfl⟩; exact ⟨⟨h1, h2⟩, rfl⟩
  · rintro ⟨⟨h1, h2⟩, rfl⟩; exact ⟨_, _, ⟨h2, rfl⟩, (), _, ⟨h1, rfl⟩, rfl, rfl⟩

theorem pHeader_eq_ok {xs r : Bytes} {hd : Header} : pHeader xs = .ok (hd, r) ↔
    (hd.tag < W32 ∧ hd.sg < W32 ∧ hd.lg < W32 ∧ hd.height < W32 ∧ hd.nsrc < W32) ∧
    xs = encU32 hd.tag ++ encU32 hd.sg ++ encU32 hd.lg ++ encU32 hd.height ++ encU32 hd.nsrc ++ r := by
  simp only [pHeader, bind_eq_ok, pure_eq_ok, exact_rU32 _ _ _, List.append_assoc]
  constructor
  · rintro ⟨_, _, ⟨h1, rfl⟩, _, _, ⟨h2, rfl⟩, _, _, ⟨h3, rfl⟩, _, _, ⟨h4, rfl⟩, _, _, ⟨h5, rfl⟩, rfl, rfl⟩
    exact ⟨⟨h1, h2, h3, h4, h5⟩, rfl⟩
  · rintro ⟨⟨h1, h2, h3, h4, h5⟩, rfl⟩
    exact ⟨_, _, ⟨h1, rfl⟩, _, _, ⟨h2, rfl⟩, _, _, ⟨h3, rfl⟩, _, _, ⟨h4, rfl⟩, _, _, ⟨h5, rfl⟩, rfl, rfl⟩

theorem shlOne_eq {k : Nat} (hk : k < 32) : shlOne k = .ok (2 ^ k) := by
  have hp : 2 ^ k ≤ 2 ^ 31 := Nat.pow_le_pow_right (by omega) (by omega)
  unfold shlOne; rw [if_neg (by omega)]; unfold u32 W32; rw [Nat.mod_eq_of_lt (by omega)]

theorem dims_eq {lg h : Nat} (hlg : lg < 32) (hp : h * 2 ^ lg < W32) : dims lg h = .ok (2 ^ lg, h * 2 ^ lg) := by
  unfold dims shl32; rw [shlOne_eq hlg, if_neg (by omega)]; unfold u32; rw [Nat.mod_eq_of_lt hp]

theorem dimsOk_iff {lg h : Nat} (hh : h < W32) : dimsOk lg h = true ↔ lg < 32 ∧ h * 2 ^ lg < W32 := by
  unfold dimsOk
  by_cases hlg : lg < 32
  · -- the 64-bit product does not wrap for a 32-bit height
    have hp : 2 ^ lg ≤ 2 ^ 31 := Nat.pow_le_pow_right (by omega) (by omega)
    have : h * 2 ^ lg ≤ h * 2 ^ 31 := Nat.mul_le_mul_left h hp
    rw [if_pos hlg, decide_eq_true_eq, u64, Nat.mod_eq_of_lt (by unfold W32 at hh; unfold W64; omega)]
    unfold W32; omega
  · simp [hlg]

/-- the bytes `Map::Write` lays out after the header and before the two trailing version tags -/
def bodyLayout (m : Map) : Bytes :=
  encU32s m.tiles ++ m.clip ++ m.sources.flatMap encSource ++ marker ++ encBlobs m.mappings ++ encBlobs m.terrains

theorem pBody_eq_ok {hd : Header} {w n : Nat} {xs r : Bytes} {m : Map} : pBody hd w n xs = .ok (m, r) ↔
    (m.versionTag = hd.tag ∧ m.savedGame = (hd.sg != 0) ∧ m.width = w ∧ m.height = hd.height ∧ m.groups = []) ∧
    (m.tiles.length = n ∧ ∀ t ∈ m.tiles, t < W32) ∧ m.clip.length = rectSize ∧
    (m.sources.length = hd.nsrc ∧ ∀ s ∈ m.sources, s.WF) ∧
    (m.mappings.length < W32 ∧ ∀ b ∈ m.mappings, b.length = mappingSize) ∧
    (m.terrains.length < W32 ∧ ∀ b ∈ m.terrains, b.length = terrainSize) ∧ xs = bodyLayout m ++ r := by
  simp only [pBody, bodyLayout, bind_eq_ok, pure_eq_ok, guard_eq_ok, exact_take _ _ _ _, id_eq, beq_iff_eq,
    exact_words _ _ _ _, (exact_many exact_pSource _) _ _ _, exact_pBlobs _ _ _ _, List.append_assoc]
  constructor
  · rintro ⟨_, _, ⟨ht, rfl⟩, _, _, ⟨hc, rfl⟩, _, _, ⟨hs, rfl⟩, _, _, ⟨-, rfl⟩, _, _, ⟨rfl, rfl⟩, _, _, ⟨hm, rfl⟩, _, _,
      ⟨hte, rfl⟩, rfl, rfl⟩
    exact ⟨⟨rfl, rfl, rfl, rfl, rfl⟩, ht, hc, hs, hm, hte, rfl⟩
  · rintro ⟨⟨e1, e2, e3, e4, e5⟩, ht, hc, hs, hm, hte, rfl⟩
    refine ⟨_, _, ⟨ht, rfl⟩, _, _, ⟨hc, rfl⟩, _, _, ⟨hs, rfl⟩, _, _, ⟨rfl, rfl⟩, (), _, ⟨rfl, rfl⟩, _, _, ⟨hm, rfl⟩,
      _, _, ⟨hte, rfl⟩, ?_, rfl⟩
    rw [← e1, ← e2, ← e3, ← e4, ← e5]

/- `beginOf` and `fileOf` are nested to the right on purpose: `subst` and `cases` put the right side of `b = … ++ r` into
   weak head normal form, and that doubles at every level of a chain of `++` nested to the left. -/

/-- the header with log-width `k` and saved-game word `sg`, then the body -/
def beginOf (m : Map) (k sg : Nat) : Bytes :=
  encU32 m.versionTag ++ (encU32 sg ++ (encU32 k ++ (encU32 m.height ++ (encU32 m.sources.length ++ bodyLayout m))))

def fileOf (m : Map) (k sg unk : Nat) : Bytes :=
  beginOf m k sg ++ (encU32 m.versionTag ++ (encU32 m.versionTag ++ (encU32 m.groups.length ++ (encU32 unk ++
    m.groups.flatMap encGroup))))

/-- the saved-game word as `Map::Write` spells it is one of the words the reader takes for the flag -/
theorem flagWord (b : Bool) : (if b then 1 else 0 : Nat) < W32 ∧ b = ((if b then 1 else 0 : Nat) != 0) := by
  cases b <;> decide

/-- `ReadMapBeginning` accepts exactly the beginnings of well-formed maps without groups, with any saved-game word that is
    zero or not as the flag says -/
theorem pBeginning_eq_ok {xs r : Bytes} {res : Except Fault Map} : pBeginning xs = .ok (res, r) ↔
    ∃ m k sg, res = .ok m ∧ Spec.WF m ∧ m.groups = [] ∧ k < 32 ∧ m.width = 2 ^ k ∧ sg < W32 ∧ m.savedGame = (sg != 0) ∧
      xs = beginOf m k sg ++ r := by
  simp only [pBeginning, beginOf, bind_eq_ok, guard_eq_ok, pHeader_eq_ok, decide_eq_true_eq, List.append_assoc]
  constructor
  · rintro ⟨⟨tag, sg, lg, h, nsrc⟩, _, ⟨⟨h1, h2, h3, h4, h5⟩, rfl⟩, _, _, ⟨hmin, rfl⟩, _, _, ⟨hok, rfl⟩, hb⟩
    obtain ⟨hlg, hp⟩ := (dimsOk_iff h4).mp hok
    simp only [dims_eq hlg hp, map_eq_ok, pBody_eq_ok] at hb
    obtain ⟨m, ⟨⟨rfl, e2, e3, rfl, e5⟩, ht, hc, ⟨rfl, hs⟩, hm, hte, rfl⟩, rfl⟩ := hb
    refine ⟨m, lg, sg, rfl, ?_, e5, hlg, e3, h2, e2, rfl⟩
    exact { tagMin := hmin, tagLt := h1, heightLt := h4, width := ⟨lg, hlg, e3⟩, count := by rw [ht.1, e3],
            countLt := by rw [e3]; exact hp, tiles := ht.2, clip := hc, nsrc := h5, src := hs, nmap := hm.1, maps := hm.2,
            nter := hte.1, ters := hte.2, ngrp := by rw [e5]; decide, grps := by rw [e5]; simp }
  · rintro ⟨m, k, sg, rfl, wf, eg, hk, hw, hsg, esg, rfl⟩
    have hp : m.height * 2 ^ k < W32 := hw ▸ wf.countLt
    refine ⟨⟨m.versionTag, sg, k, m.height, m.sources.length⟩, _,
      ⟨⟨wf.tagLt, hsg, Nat.lt_trans hk (by decide), wf.heightLt, wf.nsrc⟩, rfl⟩, (), _, ⟨wf.tagMin, rfl⟩, (), _,
      ⟨(dimsOk_iff wf.heightLt).mpr ⟨hk, hp⟩, rfl⟩, ?_⟩
    simp only [dims_eq hk hp, map_eq_ok, pBody_eq_ok]
    exact ⟨m, ⟨⟨rfl, esg, hw, rfl, eg⟩, ⟨by rw [wf.count, hw], wf.tiles⟩, wf.clip, ⟨rfl, wf.src⟩, ⟨wf.nmap, wf.maps⟩,
      ⟨wf.nter, wf.ters⟩, rfl⟩, rfl⟩

theorem pBeginning_no_fault {xs r : Bytes} {f : Fault} : pBeginning xs ≠ .ok (.error f, r) := by
  intro h
  obtain ⟨m, _, _, hm, _⟩ := pBeginning_eq_ok.mp h
  cases hm

theorem Spec.WF.noGroups {m : Map} (wf : Spec.WF m) : Spec.WF { m with groups := [] } :=
  { wf with ngrp := (by decide : 0 < W32), grps := by simp }

/-- `ReadMap` accepts exactly the files of well-formed maps, with any saved-game word that is zero or not as the flag says
    and any word after the group count -/
theorem pMap_eq_ok {xs r : Bytes} {res : Except Fault Map} : pMap xs = .ok (res, r) ↔
    ∃ m k sg unk, res = .ok m ∧ Spec.WF m ∧ k < 32 ∧ m.width = 2 ^ k ∧ sg < W32 ∧ m.savedGame = (sg != 0) ∧ unk < W32 ∧
      xs = fileOf m k sg unk ++ r := by
  simp only [pMap, fileOf, bind_eq_ok, pBeginning_eq_ok, List.append_assoc]
  constructor
  · rintro ⟨_, _, ⟨m0, k, sg, rfl, wf, -, hk, hw, hsg, esg, rfl⟩, h⟩
    simp only [bind_eq_ok, pure_eq_ok, pVersionTag_eq_ok, pGroups_eq_ok, List.append_assoc] at h
    obtain ⟨_, _, ⟨-, rfl⟩, _, _, ⟨-, rfl⟩, gs, _, ⟨⟨hn, hg⟩, unk, hu, rfl⟩, rfl, rfl⟩ := h
    exact ⟨{ m0 with groups := gs }, k, sg, unk, rfl, { wf with ngrp := hn, grps := hg }, hk, hw, hsg, esg, hu, rfl⟩
  · rintro ⟨m, k, sg, unk, rfl, wf, hk, hw, hsg, esg, hu, rfl⟩
    refine ⟨_, _, ⟨{ m with groups := [] }, k, sg, rfl, wf.noGroups, rfl,
      hk, hw, hsg, esg, rfl⟩, ?_⟩
    simp only [bind_eq_ok, pure_eq_ok, pVersionTag_eq_ok, pGroups_eq_ok, List.append_assoc]
    exact ⟨(), _, ⟨⟨wf.tagMin, wf.tagLt⟩, rfl⟩, (), _, ⟨⟨wf.tagMin, wf.tagLt⟩, rfl⟩, m.groups, _,
      ⟨⟨wf.ngrp, wf.grps⟩, unk, hu, rfl⟩, rfl, rfl⟩

end Op2.Map
