import Op2Proofs.Map.Format
/-!
# The map / saved-game readers as functions of the whole input: locality, outcomes, the files `read` accepts
-/
namespace Op2.Map
open Op2 Op2.Parser

/-! `ReadMapBeginning` and `ReadMap` are `Local` because they accept exactly the files of `Op2Proofs.Map.Format` and read
each of them back; the saved-game reader, whose unit block has no such description, because it is built from
`take / bind / pure / fail` only. -/

theorem local_pBeginning : Local pBeginning :=
  Local.of_reads fun xs res r h => by
    obtain ⟨m, k, sg, e, wf, eg, hk, hw, hsg, esg, rfl⟩ := pBeginning_eq_ok.mp h
    exact ⟨_, rfl, fun _ => pBeginning_eq_ok.mpr ⟨m, k, sg, e, wf, eg, hk, hw, hsg, esg, rfl⟩⟩

theorem local_pMap : Local pMap :=
  Local.of_reads fun xs res r h => by
    obtain ⟨m, k, sg, unk, e, wf, hk, hw, hsg, esg, hu, rfl⟩ := pMap_eq_ok.mp h
    exact ⟨_, rfl, fun _ => pMap_eq_ok.mpr ⟨m, k, sg, unk, e, wf, hk, hw, hsg, esg, hu, rfl⟩⟩

theorem local_rU32 : Local rU32 := local_u32

theorem local_pVersionTag (last : Nat) : Local (pVersionTag last) :=
  local_bind local_rU32 fun _ => local_bind (local_guard _ _) fun _ => local_guard _ _

theorem local_pUnits : Local pUnits :=
  local_bind local_rU32 fun _ => local_bind local_rU32 fun _ => local_bind local_rU32 fun _ =>
  local_bind local_rU32 fun _ => local_bind local_rU32 fun _ => local_bind (local_guard _ _) fun _ =>
  local_bind local_rU32 fun _ => local_bind local_rU32 fun _ => local_bind (local_take _) fun _ =>
  local_bind (local_take _) fun _ => local_bind local_rU32 fun _ => local_bind local_rU32 fun _ =>
  local_bind (local_take _) fun _ => by
    split
    · exact local_bind (local_take _) fun _ => local_pure _
    · exact local_pure _

theorem local_pSavedGame : Local pSavedGame :=
  local_bind (local_take _) fun _ => local_bind local_pBeginning fun r => by
    split
    · exact local_pure _
    · exact local_bind (local_pVersionTag _) fun _ => local_bind local_pUnits fun _ =>
        local_bind (local_pVersionTag _) fun _ => local_pure _

theorem outcome_eq_ok {p : Parser (Except Fault Map)} {b : Bytes} {m : Map} {n : Nat} :
    outcome p b = .ok m n ↔ ∃ r, p b = .ok (.ok m, r) ∧ n = b.length - r.length := by
  unfold outcome Parser.run
  cases p b with
  | error e => exact ⟨fun h => (nomatch h), fun ⟨_, h, _⟩ => (nomatch h)⟩
  | ok x =>
    obtain ⟨res | m', r⟩ := x
    · exact ⟨fun h => (nomatch h), fun ⟨_, h, _⟩ => (nomatch h)⟩
    · exact ⟨fun h => by cases h; exact ⟨r, rfl, rfl⟩, fun ⟨_, h, e⟩ => by cases h; rw [e]⟩

theorem outcome_eq_fault {p : Parser (Except Fault Map)} {b : Bytes} {f : Fault} :
    outcome p b = .fault f ↔ ∃ r, p b = .ok (.error f, r) := by
  unfold outcome Parser.run
  cases p b with
  | error e => exact ⟨fun h => (nomatch h), fun ⟨_, h⟩ => (nomatch h)⟩
  | ok x =>
    obtain ⟨f' | m', r⟩ := x
    · exact ⟨fun h => by cases h; exact ⟨r, rfl⟩, fun ⟨_, h⟩ => by cases h; rfl⟩
    · exact ⟨fun h => (nomatch h), fun ⟨_, h⟩ => (nomatch h)⟩

theorem outcome_of_err {p : Parser (Except Fault Map)} {b : Bytes} {e : Err} (h : p b = .error e) :
    outcome p b = .err e := by
  unfold outcome; rw [run_of_err h]

theorem prefix_strict_of_local {p : Parser (Except Fault Map)} (hp : Local p) (b : Bytes) (m : Map) (n : Nat)
    (h : outcome p b = .ok m n) (k : Nat) (hk : k < n) : ∃ e, outcome p (b.take k) = .err e := by
  obtain ⟨r, hpb, rfl⟩ := outcome_eq_ok.mp h
  obtain ⟨e, he⟩ := hp.prefix_refused hpb k hk
  exact ⟨e, outcome_of_err he⟩

theorem trailing_of_local {p : Parser (Except Fault Map)} (hp : Local p) (b : Bytes) (m : Map) (n : Nat)
    (h : outcome p b = .ok m n) (junk : Bytes) : n ≤ b.length ∧ outcome p (b.take n ++ junk) = .ok m n := by
  obtain ⟨r, hpb, rfl⟩ := outcome_eq_ok.mp h
  have hle := (hp.consumed hpb).1
  refine ⟨Nat.sub_le _ _, outcome_eq_ok.mpr ⟨junk, hp.trailing hpb junk, ?_⟩⟩
  simp only [List.length_append, List.length_take]; omega

theorem read_eq_ok {b : Bytes} {m : Map} {n : Nat} : read b = .ok m n ↔
    ∃ k sg unk r, Spec.WF m ∧ k < 32 ∧ m.width = 2 ^ k ∧ sg < W32 ∧ m.savedGame = (sg != 0) ∧ unk < W32 ∧
      b = fileOf m k sg unk ++ r ∧ n = (fileOf m k sg unk).length := by
  simp only [read, outcome_eq_ok, pMap_eq_ok]
  constructor
  · rintro ⟨r, ⟨m', k, sg, unk, e, wf, hk, hw, hsg, esg, hu, rfl⟩, rfl⟩
    cases e
    exact ⟨k, sg, unk, r, wf, hk, hw, hsg, esg, hu, rfl, by simp⟩
  · rintro ⟨k, sg, unk, r, wf, hk, hw, hsg, esg, hu, rfl, rfl⟩
    exact ⟨r, ⟨m, k, sg, unk, rfl, wf, hk, hw, hsg, esg, hu, rfl⟩, by simp⟩

/-- `ReadMap` returns what `ReadMapBeginning` returned, with the groups added -/
theorem pMap_ok {xs r : Bytes} {res : Except Fault Map} (h : pMap xs = .ok (res, r)) :
    ∃ m0 gs r1, res = .ok { m0 with groups := gs } ∧ pBeginning xs = .ok (.ok m0, r1) := by
  unfold pMap at h
  obtain ⟨_, r1, hb, hg⟩ := bind_eq_ok.mp h
  obtain ⟨m0, _, _, rfl, _⟩ := pBeginning_eq_ok.mp hb
  simp only [bind_eq_ok, pure_eq_ok] at hg
  obtain ⟨_, _, -, _, _, -, gs, _, -, rfl, -⟩ := hg
  exact ⟨m0, gs, r1, rfl, hb⟩

/-- `ReadSavedGame` returns what `ReadMapBeginning` returns after the fixed skip; the unit block is read and dropped, so
    there is no converse -/
theorem pSavedGame_ok {xs r : Bytes} {res : Except Fault Map} (h : pSavedGame xs = .ok (res, r)) :
    ∃ m r1, res = .ok m ∧ savedGameSkip ≤ xs.length ∧ pBeginning (xs.drop savedGameSkip) = .ok (.ok m, r1) := by
  simp only [pSavedGame, bind_eq_ok, exact_take _ _ _ _, id_eq] at h
  obtain ⟨pad, _, ⟨hpad, rfl⟩, _, r1, hb, h⟩ := h
  obtain ⟨m, _, _, rfl, _⟩ := pBeginning_eq_ok.mp hb
  simp only [bind_eq_ok, pure_eq_ok] at h
  obtain ⟨_, _, -, _, _, -, _, _, -, rfl, rfl⟩ := h
  exact ⟨m, r1, rfl, by simp [← hpad], by rw [← hpad, List.drop_left]; exact hb⟩

end Op2.Map
