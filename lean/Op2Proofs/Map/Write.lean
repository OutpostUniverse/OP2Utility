import Op2Proofs.Map.Format
import Op2Proofs.Map.Tile
/-!
# The map writer against the format, the frozen description of the format, and the edits

`write m` is `fileOf m k …` with the two free words in their written form; so is `Spec.encode m`.  The four public
edits keep a map well formed.
-/
namespace Op2.Map
open Op2 Op2.Parser

theorem pow2_bits : ∀ k < 32, Bits.isPow2 (2 ^ k) = true ∧ Bits.log2OfPow2 (2 ^ k) = k := by decide

theorem lgOf_pow (k : Nat) (hk : k < 32) : lgOf (2 ^ k) = .ok k := by
  unfold lgOf; rw [(pow2_bits k hk).1, (pow2_bits k hk).2, Bool.not_true, Bool.and_false]; rfl

theorem spec_lg_pow : ∀ k : Nat, k < 32 → Spec.lg (2 ^ k) = k := by decide

theorem fits_of_wf {m : Map} (h : Spec.WF m) : fits m = true := by
  unfold fits
  have a1 := h.nsrc; have a2 := h.nmap; have a3 := h.nter; have a4 := h.ngrp
  unfold W32 at a1 a2 a3 a4
  simp only [Bool.and_eq_true, decide_eq_true_eq, List.all_eq_true]
  refine ⟨⟨⟨⟨⟨by omega, ?_⟩, by omega⟩, by omega⟩, by omega⟩, ?_⟩
  · intro s hs; have := (h.src s hs).1; unfold maxNameLen at this; omega
  · intro g hg; have := (h.grps g hg).2.2.2.2; unfold W32 at this; omega

/-- `Map::Write` produces the file with the saved-game word as 0/1 and its best guess after the group count -/
theorem write_eq {m : Map} {k : Nat} (hf : fits m = true) (hk : k < 32) (hw : m.width = 2 ^ k) :
    write m = .ok (fileOf m k (if m.savedGame then 1 else 0) (unknownWord m.groups)) := by
  unfold write
  rw [hw, lgOf_pow k hk]
  simp only [hf, if_true, fileOf, beginOf, bodyLayout, encHeader, encGroups, List.append_assoc]

theorem unknownWord_eq (gs : List Group) (h : gs.length < W32) : unknownWord gs = gs.length - 1 := by
  unfold unknownWord
  cases gs with
  | nil => rfl
  | cons g t => simp only [List.isEmpty_cons, Bool.false_eq_true, if_false]; unfold u32; rw [Nat.mod_eq_of_lt h]

theorem encSource_eq (s : Source) :
    encSource s = encU32 s.name.length ++ s.name ++ (if s.name = [] then [] else encU32 s.numTiles) := by
  unfold encSource
  simp only [List.length_eq_zero_iff]

theorem encode_eq_fileOf {m : Map} {k : Nat} (hk : k < 32) (hw : m.width = 2 ^ k) :
    Spec.encode m = fileOf m k (if m.savedGame then 1 else 0) (m.groups.length - 1) := by
  have e1 : encSource = fun s => encU32 s.name.length ++ s.name ++ (if s.name = [] then [] else encU32 s.numTiles) :=
    funext encSource_eq
  have e2 : encGroup = fun g => encU32 g.w ++ encU32 g.h ++ g.idx.flatMap encU32 ++ encU32 g.name.length ++ g.name := rfl
  unfold Spec.encode fileOf beginOf bodyLayout
  rw [hw, spec_lg_pow k hk, e1, e2]
  simp only [encBlobs, encU32s, marker, List.append_assoc]

theorem setCellType_eq_ok {m m' : Map} {v x y : Nat} : setCellType m v x y = .ok (.ok m') ↔
    v ≤ 31 ∧ Tile.tileIndex m.height x y < m.tiles.length ∧
    m' = { m with tiles := Tile.modifyAt m.tiles (Tile.tileIndex m.height x y) fun w => Tile.withCellType w v } := by
  unfold setCellType
  by_cases hv : v > 31
  · simp [hv]; omega
  · by_cases hi : Tile.tileIndex m.height x y < m.tiles.length
    · simp [hv, hi, eq_comm]; omega
    · simp [hv, hi]

theorem setLavaPossible_eq_ok {m m' : Map} {b : Bool} {x y : Nat} : setLavaPossible m b x y = .ok m' ↔
    Tile.tileIndex m.height x y < m.tiles.length ∧
    m' = { m with tiles := Tile.modifyAt m.tiles (Tile.tileIndex m.height x y) fun w => Tile.withLavaPossible w b } := by
  unfold setLavaPossible
  by_cases hi : Tile.tileIndex m.height x y < m.tiles.length
  · simp [hi, eq_comm]
  · simp [hi]

theorem wf_modifyAt {m : Map} (h : Spec.WF m) (i : Nat) {f : Nat → Nat} (hf : ∀ w, w < W32 → f w < W32) :
    Spec.WF { m with tiles := Tile.modifyAt m.tiles i f } :=
  { h with
    count := by rw [← h.count]; exact List.length_modify ..
    tiles := fun t ht => by
      obtain ⟨j, hj, rfl⟩ := List.mem_iff_getElem.mp (show t ∈ m.tiles.modify i f from ht)
      rw [List.getElem_modify]
      split
      · exact hf _ (h.tiles _ (List.getElem_mem _))
      · exact h.tiles _ (List.getElem_mem _) }

theorem wf_setCellType {m m' : Map} {v x y : Nat} (h : Spec.WF m) (he : setCellType m v x y = .ok (.ok m')) : Spec.WF m' := by
  obtain ⟨-, -, rfl⟩ := setCellType_eq_ok.mp he
  exact wf_modifyAt h _ fun w => Tile.withCellType_lt w v

theorem wf_setLavaPossible {m m' : Map} {b : Bool} {x y : Nat} (h : Spec.WF m) (he : setLavaPossible m b x y = .ok m') :
    Spec.WF m' := by
  obtain ⟨-, rfl⟩ := setLavaPossible_eq_ok.mp he
  exact wf_modifyAt h _ fun w => Tile.withLavaPossible_lt w b

theorem wf_setVersionTag {m : Map} {v : Nat} (h : Spec.WF m) (h1 : minMapVersion ≤ v) (h2 : v < W32) :
    Spec.WF (setVersionTag m v) :=
  { h with tagMin := h1, tagLt := h2 }

theorem wf_trim {m : Map} (h : Spec.WF m) : Spec.WF (trimTilesetSources m) :=
  { h with
    nsrc := Nat.lt_of_le_of_lt (List.length_filter_le _ _) h.nsrc
    src := fun s hs => h.src s (List.mem_filter.mp hs).1 }

def setWord (bs : Bytes) (off : Nat) (v : Nat) : Bytes := bs.take off ++ encU32 v ++ bs.drop (off + 4)

theorem setWord_mid (a w c : Bytes) (v : Nat) (hw : w.length = 4) : setWord (a ++ w ++ c) a.length v = a ++ encU32 v ++ c := by
  unfold setWord
  have e : a ++ w ++ c = a ++ (w ++ c) := List.append_assoc _ _ _
  rw [e, List.take_left' rfl]
  have hl : a.length + 4 = (a ++ w).length := by simp [hw]
  rw [hl, ← e, List.drop_left' rfl]

end Op2.Map
