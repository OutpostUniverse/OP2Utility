import Op2Model.Tile
/-!
# Fields of a tile word; the inverse of tile addressing

A field is the digit group `w / B % M` (for a bit-field `B`, `M` are powers of two; nothing below needs that).
-/
namespace Op2.Tile
open Op2

theorem field_eq_of_div_eq {w w' D B : Nat} (h : w' / D = w / D) (hB : D ∣ B) (M : Nat) :
    w' / B % M = w / B % M := by
  obtain ⟨c, rfl⟩ := hB
  rw [← Nat.div_div_eq_div_mul, ← Nat.div_div_eq_div_mul, h]

theorem field_eq_of_mod_eq {w w' B B' M' : Nat} (h : w' % B = w % B) (hB : B' * M' ∣ B) :
    w' / B' % M' = w / B' % M' := by
  rw [← Nat.mod_mul_right_div_self, ← Nat.mod_mul_right_div_self w, ← Nat.mod_mod_of_dvd w' hB,
    ← Nat.mod_mod_of_dvd w hB, h]

theorem lt_of_div_eq {w w' D T : Nat} (h : w' / D = w / D) (hT : D ∣ T) (hw : w < T) : w' < T := by
  obtain ⟨c, rfl⟩ := hT
  have hD : 0 < D := Nat.pos_of_ne_zero (by rintro rfl; simp at hw)
  rw [Nat.mul_comm, ← Nat.div_lt_iff_lt_mul hD] at hw ⊢
  rw [h]; exact hw

/-- overwriting the field of size `M` at position `B` with `v` -/
theorem withField_spec {B M v : Nat} (w : Nat) (hB : 0 < B) (hv : v < M) :
    (w - w / B % M * B + v * B) % B = w % B ∧ (w - w / B % M * B + v * B) / B % M = v ∧
    (w - w / B % M * B + v * B) / (B * M) = w / (B * M) := by
  -- `w = l + B * f + (B * M) * q` with `l < B`, and the new word is `l + B * v + (B * M) * q`
  have hw : w = w % B + B * (w / B % M) + B * M * (w / (B * M)) := by
    rw [← Nat.mod_mul, Nat.mod_add_div]
  have hl : w % B < B := Nat.mod_lt _ hB
  have e : w - w / B % M * B + v * B = w % B + B * v + B * M * (w / (B * M)) := by
    rw [Nat.mul_comm _ B, Nat.mul_comm v B]; omega
  have hlt : w % B + B * v < B * M := by
    have : B * v + B ≤ B * M := by rw [← Nat.mul_succ]; exact Nat.mul_le_mul_left B hv
    omega
  rw [e]
  refine ⟨?_, ?_, ?_⟩
  · rw [Nat.mul_assoc, Nat.add_assoc, ← Nat.mul_add, Nat.add_mul_mod_self_left, Nat.mod_mod]
  · rw [Nat.mul_assoc, Nat.add_assoc, ← Nat.mul_add, Nat.add_comm, Nat.mul_add_div hB, Nat.div_eq_of_lt hl,
      Nat.add_zero, Nat.add_comm, Nat.mul_add_mod, Nat.mod_eq_of_lt hv]
  · rw [Nat.add_comm, Nat.mul_add_div (Nat.lt_of_le_of_lt (Nat.zero_le _) hlt), Nat.div_eq_of_lt hlt, Nat.add_zero]

theorem withCellType_spec (w v : Nat) : withCellType w v % 32 = v % 32 ∧ withCellType w v / 32 = w / 32 := by
  unfold withCellType; omega

theorem withLavaPossible_spec (w : Nat) (b : Bool) :
    withLavaPossible w b % 268435456 = w % 268435456 ∧ withLavaPossible w b / 268435456 % 2 = b.toNat ∧
    withLavaPossible w b / 536870912 = w / 536870912 := by
  have e : withLavaPossible w b = w - w / 268435456 % 2 * 268435456 + b.toNat * 268435456 := by
    cases b <;> rfl
  rw [e]
  exact withField_spec (B := 268435456) (M := 2) w (by decide) (by cases b <;> decide)

theorem withCellType_lt (w v : Nat) (hw : w < W32) : withCellType w v < W32 :=
  lt_of_div_eq (withCellType_spec w v).2 (by decide) hw

theorem withLavaPossible_lt (w : Nat) (b : Bool) (hw : w < W32) : withLavaPossible w b < W32 :=
  lt_of_div_eq (withLavaPossible_spec w b).2.2 (by decide) hw

/-- the coordinates from the index: `x` from the block number and the column in the block, `y` from the row in the block -/
theorem tileIndexN_inv {h x y : Nat} (hy : y < h) :
    tileIndexN h x y / 32 / h * 32 + tileIndexN h x y % 32 = x ∧ tileIndexN h x y / 32 % h = y := by
  have r : x % 32 < 32 := Nat.mod_lt _ (by decide)
  have a : tileIndexN h x y / 32 = h * (x / 32) + y := by
    unfold tileIndexN
    rw [Nat.mul_comm _ 32, Nat.mul_add_div (by decide), Nat.div_eq_of_lt r, Nat.add_zero, Nat.mul_comm]
  have b : tileIndexN h x y % 32 = x % 32 := by
    unfold tileIndexN
    rw [Nat.mul_comm _ 32, Nat.mul_add_mod, Nat.mod_mod]
  rw [a, b, Nat.mul_add_div (Nat.lt_of_le_of_lt (Nat.zero_le _) hy), Nat.mul_add_mod, Nat.div_eq_of_lt hy,
    Nat.mod_eq_of_lt hy, Nat.add_zero, Nat.mul_comm]
  exact ⟨Nat.div_add_mod x 32, rfl⟩

end Op2.Tile
