import Op2Proofs.Map.Read
/-!
# Saved games: a concrete family of files the saved-game reader accepts (non-vacuity of the C07 saved-game statements)
-/
namespace Op2.Map
open Op2 Op2.Parser

/-- the beginning of a map file as `Map::Write` lays it out -/
def beginBytes (m : Map) (k : Nat) : Bytes := encHeader m.versionTag m.savedGame k m.height m.sources.length ++ bodyLayout m

theorem beginBytes_eq (m : Map) (k : Nat) : beginBytes m k = beginOf m k (if m.savedGame then 1 else 0) := by
  simp only [beginBytes, beginOf, encHeader, List.append_assoc]

theorem reads_pBeginning (m : Map) (k : Nat) (hk : k < 32) (hw : m.width = 2 ^ k) (wf : Spec.WF m) :
    Reads pBeginning (beginBytes m k) (.ok { m with groups := [] }) := fun _ =>
  pBeginning_eq_ok.mpr ⟨{ m with groups := [] }, k, _, rfl, wf.noGroups, rfl,
    hk, hw, (flagWord _).1, (flagWord _).2, by rw [beginBytes_eq]; rfl⟩

theorem reads_pVersionTag (t : Nat) (h1 : minMapVersion ≤ t) (h2 : t < W32) : Reads (pVersionTag t) (encU32 t) () :=
  fun _ => pVersionTag_eq_ok.mpr ⟨⟨h1, h2⟩, rfl⟩

/-- a unit block without units, objects or a free list: the five counter words (all zero but the unit size, 120), the two
    object counts (zero), two more words, the unit array `u` -/
def emptyUnits (u : Bytes) : Bytes :=
  encU32 0 ++ encU32 0 ++ encU32 0 ++ encU32 0 ++ encU32 120 ++ encU32 0 ++ encU32 0 ++ encU32 0 ++ encU32 0 ++ u

theorem reads_pUnits (u : Bytes) (hu : u.length = unitsArrayBytes) : Reads pUnits (emptyUnits u) () := by
  intro rest
  have z : (0 : Nat) < W32 := by decide
  have t0 (xs : Bytes) : take 0 xs = .ok ([], xs) := (exact_take 0 xs [] xs).mpr ⟨rfl, rfl⟩
  unfold emptyUnits pUnits
  simp only [List.append_assoc]
  rw [exact_rU32.bind_eq z, exact_rU32.bind_eq z, exact_rU32.bind_eq z, exact_rU32.bind_eq z,
    exact_rU32.bind_eq (by decide : 120 < W32), bind_guard (by decide), exact_rU32.bind_eq z, exact_rU32.bind_eq z,
    Nat.mul_zero, bind_step (t0 _), Nat.mul_zero, bind_step (t0 _), exact_rU32.bind_eq z, exact_rU32.bind_eq z,
    bind_take hu]
  rfl

end Op2.Map
