import Op2Proofs.Tileset.SpecRead
/-!
# `WriteCustomTileset` on a valid picture produces exactly the frozen description of the format
-/
namespace Op2.Tileset
open Op2 Op2.Bmp

/-- the bytes `WriteCustomTileset` emits for a top-down object with a 256-entry palette -/
def customBytes (pal : List Color) (h : Nat) (px : Bytes) : Bytes := layout pal h px []

/-- the sections as `WriteCustomTileset` writes them, with its `uint32_t` length computations -/
theorem sections_eq_customBytes (pal : List Color) (h : Nat) (px : Bytes) (h32 : h % 32 = 0) :
    encSection tagPBMP (pbmpSectionSize h) ++
      (encSection tagHead headSectionSize ++ encU32 headTagCount ++ encU32 pixelWidth ++
       encU32 ((h / heightMultiple * heightMultiple) % W32) ++ encU32 bitDepth ++ encU32 flags) ++
      (encSection tagPPAL ppalSectionSize ++ encSection tagHead ppalHeadSectionSize ++ encU32 ppalTagCount) ++
      encSection tagData paletteSectionSize ++ encPalette (pal.map Color.swapRB) ++
      encSection tagData (pixelHeaderLength h) ++ px = customBytes pal h px := by
  have e1 : pbmpSectionSize h = (1068 + 32 * h) % W32 := by
    unfold pbmpSectionSize pixelHeaderLength sizeTag sizeTilesetHeader sizePpalHeader paletteSectionSize pixelWidth W32; omega
  have e2 : h / heightMultiple * heightMultiple = h := by unfold heightMultiple; omega
  rw [e1, e2]
  simp only [customBytes, layout, layoutWith, encSection, pixelHeaderLength, Codec.encU32_mod, flatMap_bgra, headSectionSize,
    headTagCount, pixelWidth, bitDepth, flags, ppalSectionSize, ppalHeadSectionSize, ppalTagCount, paletteSectionSize,
    List.append_assoc, List.append_nil]

theorem writeCustom_eq {f : Bmp} (hv : validateTs f = .ok ()) (hvp : verifyPalette f = .ok ())
    (hr : -2147483648 < f.ih.height ∧ f.ih.height < 2147483648)
    (hp : f.ih.height.natAbs * pitch f.ih.bitCount f.ih.width ≤ f.pixels.length) :
    writeCustom f = .ok (customBytes (f.palette ++ List.replicate (256 - f.palette.length) Color.black) f.ih.height.natAbs
      (if f.ih.height < 0 then f.pixels else (flipped f).pixels)) := by
  have h32 : f.ih.height.natAbs % 32 = 0 := by have := ((validateTs_eq_ok f).mp hv).2.2; omega
  have hne : f.ih.height ≠ I32_MIN := by unfold I32_MIN; omega
  unfold writeCustom
  simp only [hv, hvp]
  generalize f.palette ++ List.replicate (256 - f.palette.length) Color.black = pal
  by_cases htd : f.ih.height < 0
  · rw [if_pos (show isTopDown { f with palette := pal } = true from decide_eq_true htd), if_pos htd]
    simp only
    rw [absoluteHeight_of_ne { f with palette := pal } hne]
    simp only
    rw [sections_eq_customBytes _ _ _ h32]
  · rw [if_neg (show ¬ isTopDown { f with palette := pal } = true from fun h => htd (of_decide_eq_true h)), if_neg htd,
      invert_ok { f with palette := pal } hne hr.2 hp]
    simp only
    rw [absoluteHeight_of_ne (flipped { f with palette := pal }) (show -f.ih.height ≠ I32_MIN by unfold I32_MIN; omega),
      show (flipped { f with palette := pal }).ih.height.natAbs = f.ih.height.natAbs from Int.natAbs_neg _]
    simp only
    rw [sections_eq_customBytes _ _ _ h32]
    rfl

theorem picture_rows_length (f : Bmp) : (picture f).rows.length = f.ih.height.natAbs := by
  unfold picture
  split <;> simp [storedRows_length]

theorem picture_wf {f : Bmp} (hv : ValidPicture f) : (picture f).WF := by
  obtain ⟨_, _, hm, hlo, hhi, hpal, hpx⟩ := hv
  have hl := picture_rows_length f
  unfold I32_MIN I32_MAX at *
  refine ⟨by show (f.palette ++ List.replicate (256 - f.palette.length) Color.black).length = 256; rw [List.length_append, List.length_replicate]; omega, by omega, by omega, ?_⟩
  have hrows := storedRows_row_length 32 f.ih.height.natAbs f.pixels (by omega)
  intro r hr
  unfold picture at hr
  split at hr
  · exact hrows r hr
  · exact hrows r (List.mem_reverse.mp hr)

theorem picture_flatten {f : Bmp} (hv : ValidPicture f) :
    (picture f).rows.flatten = if f.ih.height < 0 then f.pixels else (flipped f).pixels := by
  obtain ⟨h8, h32, _, _, _, _, hpx⟩ := hv
  unfold picture
  split
  · exact storedRows_flatten 32 _ _ (by rw [hpx, Nat.mul_comm])
  · show _ = (storedRows f.pixels (pitch f.ih.bitCount f.ih.width) _).reverse.flatten
    rw [h8, h32]; rfl

theorem writeCustom_ok {f : Bmp} (hv : ValidPicture f) : writeCustom f = .ok (Spec.encode (picture f)) := by
  have hf := picture_flatten hv
  obtain ⟨h8, h32, hm, hlo, hhi, hpal, hpx⟩ := hv
  unfold I32_MIN at hlo; unfold I32_MAX at hhi
  rw [writeCustom_eq (ValidPicture.validateTs ⟨h8, h32, hm, hlo, hhi, hpal, hpx⟩)
      (by unfold verifyPalette; rw [if_pos ⟨by omega, by rw [h8]; exact hpal⟩]) ⟨hlo, by omega⟩
      (by rw [h8, h32, hpx, Nat.mul_comm]; exact Nat.le_refl _),
    encode_eq_layoutWith, picture_rows_length, hf]
  simp only [customBytes, layout, List.append_nil]
  rfl

theorem writeCustom_isFault {f : Bmp} (L : Loaded f) : (writeCustom f).isFault = false := by
  rcases validateTs_cases f with hv | hv
  · rw [writeCustom_ok (validPicture_of_loaded L hv)]; rfl
  · unfold writeCustom; rw [hv]; rfl

theorem picture_bmpOfPicture (p : Spec.Picture) (hwf : p.WF) : picture (bmpOfPicture p) = p := by
  obtain ⟨pal, rows⟩ := p
  obtain ⟨hpal, _, _, hrows⟩ := hwf
  simp only at hpal hrows
  unfold picture bmpOfPicture
  simp only
  have e1 : (-(rows.length : Int)).natAbs = rows.length := by omega
  rw [e1, storedRows_of_flatten 32 rows rfl hrows, hpal]
  simp only [Nat.sub_self, List.replicate_zero, List.append_nil]
  by_cases h0 : rows.length = 0
  · have : rows = [] := List.eq_nil_of_length_eq_zero h0
    subst this; simp
  · rw [if_pos (by omega)]

end Op2.Tileset
