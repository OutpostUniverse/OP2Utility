import Op2Proofs.Tileset.Custom
/-!
# The custom tileset reader and its two header guards `tilesetHeaderOk` / `ppalHeaderOk`

The header of a custom tileset file lies at fixed offsets (nothing before byte 56 is of variable length):

```
 0 "PBMP"  4 len | 8 "head" 12 len 16 tagCount 20 pixelWidth 24 pixelHeight 28 bitDepth 32 flags | 36 "PPAL" 40 len 44 "head" 48 len 52 tagCount
```

Whenever `Rd.custom` returns at all (as a parser: any outcome, any rest), the fields decoded at these offsets satisfy both
predicates; when the file is long enough for the reader to reach the guard and everything before it is accepted, a header failing
the predicate is refused with `Err.format`.  This is the model-side half of the tie
`C++ Validate = predicate = what the reader checks` (the other half is `Props/C09_Gen.lean`).
-/
namespace Op2.Tileset
open Op2 Op2.Bmp Op2.Parser

/-- a `Tag` as the reader sees it -/
def tagAt (b : Bytes) (off : Nat) : Bytes := (b.drop off).take 4
def u32At (b : Bytes) (off : Nat) : Nat := decU32 ((b.drop off).take 4)

def byteAt (b : Bytes) (i : Nat) : UInt8 := b.getD i 0

theorem tagAt_bytes (b : Bytes) (n : Nat) (hl : n + 4 ≤ b.length) :
    tagAt b n = [byteAt b n, byteAt b (n + 1), byteAt b (n + 2), byteAt b (n + 3)] := by
  have g : ∀ i, byteAt b (n + i) = (b.drop n).getD i 0 := by
    intro i; simp [byteAt, List.getD_eq_getElem?_getD, List.getElem?_drop]
  have g0 := g 0; rw [Nat.add_zero] at g0
  rw [g0, g 1, g 2, g 3]
  unfold tagAt
  have hlen : 4 ≤ (b.drop n).length := by rw [List.length_drop]; omega
  generalize b.drop n = xs at hlen
  match xs, hlen with
  | a :: b :: c :: d :: t, _ => rfl

/-- `TilesetHeader::Validate` on the header stored in `b` -/
def tilesetHeaderOkAt (b : Bytes) : Bool :=
  tilesetHeaderOk (tagAt b 8) (u32At b 12) (u32At b 16) (u32At b 20) (u32At b 24)
/-- `PpalHeader::Validate` on the header stored in `b` -/
def ppalHeaderOkAt (b : Bytes) : Bool :=
  ppalHeaderOk (tagAt b 36) (u32At b 40) (tagAt b 44) (u32At b 48) (u32At b 52)

theorem custom_headers {b : Bytes} {o : Out Bmp} {rest : Bytes} (hh : Rd.custom b = .ok (o, rest)) :
    tilesetHeaderOkAt b = true ∧ ppalHeaderOkAt b = true := by
  -- what was consumed is a `layoutWith`; its fields at these offsets are found by evaluation: constants, and `h` at 24
  obtain ⟨_, rfl, len0, bd, fl, pal, h, px, C, _, rfl⟩ := yields_custom _ _ _ hh
  have hph : h ≤ 2147483647 := by have := C.cap; unfold allocCap at this; omega
  have e : u32At (layoutWith len0 bd fl pal h px ++ rest) 24 = h := Codec.decU32_encU32' h (by omega)
  refine ⟨?_, (by decide : ppalHeaderOk tagPPAL 1048 tagHead 4 1 = true)⟩
  show tilesetHeaderOk tagHead 20 2 32 (u32At _ 24) = true
  rw [e]
  exact decide_eq_true ⟨rfl, rfl, rfl, C.h32, hph, rfl⟩

theorem custom_bad_header {b : Bytes} (hbad : tilesetHeaderOkAt b = false ∨ ppalHeaderOkAt b = false) :
    ∃ e, Rd.custom b = .error e := by
  cases hr : Rd.custom b with
  | error e => exact ⟨e, rfl⟩
  | ok r =>
    obtain ⟨o, rest⟩ := r
    obtain ⟨h1, h2⟩ := custom_headers hr
    rcases hbad with h | h
    · rw [h1] at h; cases h
    · rw [h2] at h; cases h

theorem bind_sectionHeader_off {β : Type} (b : Bytes) (n : Nat) (f : Bytes × Nat → Parser β) (hl : n + 8 ≤ b.length) :
    Parser.bind Rd.sectionHeader f (b.drop n) = f (tagAt b n, u32At b (n + 4)) (b.drop (n + 8)) := by
  have h1 : 4 ≤ (b.drop n).length := by rw [List.length_drop]; omega
  have h2 : 4 ≤ ((b.drop n).drop 4).length := by rw [List.length_drop, List.length_drop]; omega
  unfold Rd.sectionHeader Parser.u32 Parser.map
  simp only [Parser.bind, Parser.take, Parser.pure, if_pos h1, if_pos h2]
  unfold tagAt u32At
  rw [List.drop_drop, List.drop_drop]

theorem bind_u32_off {β : Type} (b : Bytes) (n : Nat) (f : Nat → Parser β) (hl : n + 4 ≤ b.length) :
    Parser.bind Parser.u32 f (b.drop n) = f (u32At b n) (b.drop (n + 4)) := by
  have h1 : 4 ≤ (b.drop n).length := by rw [List.length_drop]; omega
  unfold Parser.u32 Parser.map
  simp only [Parser.bind, Parser.take, Parser.pure, if_pos h1]
  unfold u32At
  rw [List.drop_drop]

/-- one walk along `Rd.custom`: to the guard on the tileset header, and past it to the guard on the palette header -/
theorem custom_header_guards {b : Bytes} (hl : 36 ≤ b.length) (hsig : tagAt b 0 = tagPBMP) (hlen : u32At b 4 ≠ 0) :
    (tilesetHeaderOkAt b = false → Rd.custom b = .error .format) ∧
    (56 ≤ b.length → tilesetHeaderOkAt b = true → ppalHeaderOkAt b = false → Rd.custom b = .error .format) := by
  rw [show Rd.custom b = Rd.custom (b.drop 0) from rfl]
  unfold Rd.custom
  rw [bind_sectionHeader_off b 0 _ (by omega), bind_guard (decide_eq_true ⟨hsig, hlen⟩), bind_sectionHeader_off b _ _ (by omega),
    bind_u32_off b _ _ (by omega), bind_u32_off b _ _ (by omega), bind_u32_off b _ _ (by omega), bind_u32_off b _ _ (by omega),
    bind_u32_off b _ _ (by omega)]
  refine ⟨fun hbad => bind_guard_false hbad _ _, fun hl hok hbad => ?_⟩
  rw [bind_guard (c := tilesetHeaderOk _ _ _ _ _) hok, bind_sectionHeader_off b _ _ (by omega),
    bind_sectionHeader_off b _ _ (by omega), bind_u32_off b _ _ (by omega)]
  exact bind_guard_false hbad _ _

/-- `Err.format` is the `throw std::runtime_error` of `TilesetHeader::Validate` -/
theorem custom_bad_tilesetHeader {b : Bytes} (hl : 36 ≤ b.length) (hsig : tagAt b 0 = tagPBMP) (hlen : u32At b 4 ≠ 0)
    (hbad : tilesetHeaderOkAt b = false) : Rd.custom b = .error .format :=
  (custom_header_guards hl hsig hlen).1 hbad

theorem custom_bad_ppalHeader {b : Bytes} (hl : 56 ≤ b.length) (hsig : tagAt b 0 = tagPBMP) (hlen : u32At b 4 ≠ 0)
    (hok : tilesetHeaderOkAt b = true) (hbad : ppalHeaderOkAt b = false) : Rd.custom b = .error .format :=
  (custom_header_guards (Nat.le_trans (by decide) hl) hsig hlen).2 hl hok hbad

end Op2.Tileset
