import Op2Proofs.Bmp.RoundTrip
import Op2Model.Tileset
/-!
`ReadCustomTileset` accepts exactly the files `layoutWith …` (the custom format with the three header fields the reader
does not constrain left free) and returns the top-down 8-bit bitmap `canon 8 32 (-h) pal px` of what they hold.
-/
namespace Op2.Tileset
open Op2 Op2.Bmp Op2.Parser

theorem validateTs_cases (f : Bmp) : validateTs f = .ok () ∨ validateTs f = .err .format := by
  unfold validateTs; split <;> simp

theorem validateTs_isFault (f : Bmp) : (validateTs f).isFault = false := by
  rcases validateTs_cases f with e | e <;> rw [e] <;> rfl

theorem validateTs_eq_ok (f : Bmp) :
    validateTs f = .ok () ↔ f.ih.bitCount = 8 ∧ f.ih.width = 32 ∧ f.ih.height % 32 = 0 := by
  unfold validateTs bitDepth heightMultiple
  split
  · rename_i h; exact ⟨fun _ => ⟨h.1, h.2.1, (toU32_mod32 _).mp h.2.2⟩, fun _ => rfl⟩
  · rename_i h; exact ⟨fun e => (nomatch e), fun ⟨a, b, c⟩ => (h ⟨a, b, (toU32_mod32 _).mpr c⟩).elim⟩

theorem swap_length (f : Bmp) : (swapRedAndBlue f).palette.length = f.palette.length := by
  simp [swapRedAndBlue]

theorem swapRB_swapRB (c : Color) : c.swapRB.swapRB = c := rfl

theorem map_swapRB_swapRB (pal : List Color) : (pal.map Color.swapRB).map Color.swapRB = pal := by
  rw [List.map_map]
  exact (List.map_congr_left fun c _ => (swapRB_swapRB c : (Color.swapRB ∘ Color.swapRB) c = id c)).trans (List.map_id _)

theorem flatMap_bgra (pal : List Color) : pal.flatMap Spec.bgra = encPalette (pal.map Color.swapRB) := by
  unfold encPalette
  induction pal with
  | nil => rfl
  | cons c cs ih => simp only [List.flatMap_cons, List.map_cons, ih]; rfl

/-- the custom-format bytes with the fields `ReadCustomTileset` does not constrain left free: the length of the outer
    section (only required to be non-zero), the bit depth above its low 16 bits, the flags -/
def layoutWith (len0 bd fl : Nat) (pal : List Color) (h : Nat) (px : Bytes) : Bytes :=
  tagPBMP ++ (encU32 len0 ++
  (tagHead ++ (encU32 20 ++ (encU32 2 ++ (encU32 32 ++ (encU32 h ++ (encU32 bd ++ (encU32 fl ++
  (tagPPAL ++ (encU32 1048 ++
  (tagHead ++ (encU32 4 ++ (encU32 1 ++
  (tagData ++ (encU32 1024 ++ (pal.flatMap Spec.bgra ++
  (tagData ++ (encU32 (32 * h) ++ px))))))))))))))))))

/-- the bytes of the frozen description followed by `junk` -/
def layout (pal : List Color) (h : Nat) (px junk : Bytes) : Bytes := layoutWith (1068 + 32 * h) 8 8 pal h px ++ junk

theorem bgra_length (pal : List Color) : (pal.flatMap Spec.bgra).length = 4 * pal.length :=
  Codec.flatMap_length_const pal fun _ _ => rfl

theorem layoutWith_length (len0 bd fl : Nat) (pal : List Color) (h : Nat) (px : Bytes) :
    (layoutWith len0 bd fl pal h px).length = 72 + 4 * pal.length + px.length := by
  simp only [layoutWith, List.length_append, encU32_length, bgra_length, tagPBMP, tagHead, tagPPAL, tagData,
    List.length_cons, List.length_nil]
  omega

/-- what `ReadCustomTileset` requires of a file laid out as `layoutWith` -/
structure CustomOk (len0 bd fl : Nat) (pal : List Color) (h : Nat) (px : Bytes) : Prop where
  len0 : len0 ≠ 0 ∧ len0 < W32
  bd : bd % W16 = 8 ∧ bd < W32
  fl : fl < W32
  pal : pal.length = 256
  h32 : h % 32 = 0
  cap : 32 * h ≤ allocCap
  px : px.length = 32 * h

namespace CustomOk
variable {len0 bd fl : Nat} {pal : List Color} {h : Nat} {px : Bytes}

theorem geometry (C : CustomOk len0 bd fl pal h px) : Geometry 8 32 (-(h : Int)) :=
  ⟨by decide, by decide, by have := C.cap; unfold allocCap at this; omega⟩

theorem loaded (C : CustomOk len0 bd fl pal h px) : Loaded (canon 8 32 (-(h : Int)) pal px) :=
  canon_loaded C.geometry C.pal (by rw [C.px, Int.natAbs_neg]; rfl) (C.px ▸ C.cap)

theorem validateTs (C : CustomOk len0 bd fl pal h px) : validateTs (canon 8 32 (-(h : Int)) pal px) = .ok () :=
  (validateTs_eq_ok _).mpr ⟨rfl, rfl, by show -(h : Int) % 32 = 0; have := C.h32; omega⟩

end CustomOk

theorem reads_sectionHeader (tag : Bytes) (len : Nat) (ht : tag.length = 4) (hl : len < W32) :
    Reads Rd.sectionHeader (tag ++ encU32 len) (tag, len) := by
  intro rest
  unfold Rd.sectionHeader
  rw [List.append_assoc, (reads_take' tag 4 ht).bind_eq, (reads_u32 len hl).bind_eq]
  rfl

theorem bind_sectionHeader {β : Type} (tag : Bytes) (len : Nat) (ht : tag.length = 4) (hl : len < W32)
    (f : Bytes × Nat → Parser β) (rest : Bytes) :
    Parser.bind Rd.sectionHeader f (tag ++ (encU32 len ++ rest)) = f (tag, len) rest := by
  rw [← List.append_assoc]; exact (reads_sectionHeader tag len ht hl).bind_eq f rest

theorem yields_sectionHeader : Yields Rd.sectionHeader (fun t s => t.2 < W32 ∧ s = t.1 ++ encU32 t.2) := by
  unfold Rd.sectionHeader
  exact yields_bind (yields_take 4) fun _ _ ⟨e1, _⟩ => yields_bind yields_u32 fun _ _ ⟨h2, e2⟩ =>
    yields_pure ⟨h2, by rw [e1, e2, List.append_nil]⟩

/-- `int32_t(pixelHeight * -1)` with the `uint32_t` product, for the heights `TilesetHeader::Validate` lets through -/
theorem neg_height (h : Nat) (hh : h < 2147483648) : Op2.i32 (((W32 - 1) * h) % W32) = -(h : Int) := by
  unfold Op2.i32 W32
  omega

theorem createShape_custom (h : Nat) (hc : 32 * h ≤ allocCap) (G : Geometry 8 32 (-(h : Int))) :
    createShape 8 32 (-(h : Int)) = .ok ⟨BmpHeader.create (pixelStart 8 + 32 * h) (pixelStart 8), .default 32 (-(h : Int)) 8, 256, 32 * h⟩ :=
  (createShape_eq_ok ⟨Int.le_of_lt G.height.1, G.height.2⟩).mpr ⟨G, by rw [Int.natAbs_neg]; exact hc, by
    rw [Int.natAbs_neg]; rfl⟩

theorem reads_custom {len0 bd fl : Nat} {pal : List Color} {h : Nat} {px : Bytes} (C : CustomOk len0 bd fl pal h px) :
    Reads Rd.custom (layoutWith len0 bd fl pal h px) (.ok (canon 8 32 (-(h : Int)) pal px)) := by
  intro rest
  have hc : 32 * h ≤ 1073741824 := C.cap
  have hl := C.len0.2; have hb := C.bd.2; have hf := C.fl
  unfold W32 at hl hb hf
  unfold Rd.custom layoutWith
  simp only [List.append_assoc]
  rw [bind_sectionHeader tagPBMP len0 rfl hl, bind_guard (decide_eq_true ⟨rfl, C.len0.1⟩),
    bind_sectionHeader tagHead 20 rfl (by decide), (reads_u32 2 (by omega)).bind_eq, (reads_u32 32 (by omega)).bind_eq,
    (reads_u32 h (by omega)).bind_eq, (reads_u32 bd hb).bind_eq, (reads_u32 fl hf).bind_eq,
    bind_guard (by unfold tilesetHeaderOk; exact decide_eq_true ⟨rfl, rfl, rfl, C.h32, by omega, rfl⟩),
    bind_sectionHeader tagPPAL 1048 rfl (by decide), bind_sectionHeader tagHead 4 rfl (by decide),
    (reads_u32 1 (by omega)).bind_eq, bind_guard (by decide), bind_sectionHeader tagData 1024 rfl (by decide),
    bind_guard (by decide), C.bd.1, neg_height h (by omega), createShape_custom h C.cap C.geometry]
  simp only
  rw [flatMap_bgra, ← (show (pal.map Color.swapRB).length = 256 by rw [List.length_map, C.pal]),
    (reads_palette _).bind_eq, bind_sectionHeader tagData (32 * h) rfl (by unfold W32; omega),
    bind_guard (decide_eq_true ⟨rfl, by unfold pixelHeaderLength pixelWidth W32; omega⟩),
    ← C.px, (reads_take px).bind_eq]
  have ef : swapRedAndBlue ⟨BmpHeader.create (pixelStart 8 + px.length) (pixelStart 8), .default 32 (-(h : Int)) 8,
      List.map Color.swapRB pal, px⟩ = canon 8 32 (-(h : Int)) pal px := by
    unfold swapRedAndBlue canon
    simp only [map_swapRB_swapRB]
  simp only [ef, C.validateTs]
  rfl

theorem yields_custom : Yields Rd.custom (fun o s => ∃ len0 bd fl pal h px,
    CustomOk len0 bd fl pal h px ∧ o = .ok (canon 8 32 (-(h : Int)) pal px) ∧ s = layoutWith len0 bd fl pal h px) := by
  unfold Rd.custom
  refine yields_bind yields_sectionHeader fun sig _ ⟨hl0, e1⟩ => yields_bind (yields_guard _ _) fun _ _ ⟨g2, e2⟩ =>
    yields_bind yields_sectionHeader fun head _ ⟨_, e3⟩ => yields_bind yields_u32 fun tc _ ⟨_, e4⟩ =>
    yields_bind yields_u32 fun pw _ ⟨_, e5⟩ => yields_bind yields_u32 fun ph _ ⟨_, e6⟩ =>
    yields_bind yields_u32 fun bd _ ⟨hbd, e7⟩ => yields_bind yields_u32 fun fl _ ⟨hfl, e8⟩ =>
    yields_bind (yields_guard _ _) fun _ _ ⟨g9, e9⟩ => yields_bind yields_sectionHeader fun ppal _ ⟨_, e10⟩ =>
    yields_bind yields_sectionHeader fun phead _ ⟨_, e11⟩ => yields_bind yields_u32 fun ptc _ ⟨_, e12⟩ =>
    yields_bind (yields_guard _ _) fun _ _ ⟨g13, e13⟩ => yields_bind yields_sectionHeader fun pdata _ ⟨_, e14⟩ =>
    yields_bind (yields_guard _ _) fun _ _ ⟨g15, e15⟩ => ?_
  obtain ⟨t1, n1⟩ := of_decide_eq_true g2
  obtain ⟨t3, n3, hpw, h32, hph, htc⟩ := of_decide_eq_true g9
  have hpw : pw = 32 := hpw
  obtain ⟨t10, n10, t11, n11, hptc⟩ := of_decide_eq_true g13
  obtain ⟨t14, n14⟩ := of_decide_eq_true g15
  rw [neg_height ph (by omega)]
  cases hs : createShape (bd % W16) pw (-(ph : Int)) with
  | fault g => exact (Out.isFault_eq_false_iff.mp (createShape_isFault _ _ _) g hs).elim
  | err e => exact yields_fail
  | ok bm =>
    obtain ⟨G, hcap, rfl⟩ := (createShape_eq_ok ⟨by omega, by omega⟩).mp hs
    refine yields_bind (exact_many exact_color _).yields fun pal _ ⟨⟨hP, _⟩, e16⟩ =>
      yields_bind yields_sectionHeader fun xdata _ ⟨_, e17⟩ => yields_bind (yields_guard _ _) fun _ _ ⟨g18, e18⟩ =>
      yields_bind (yields_take _) fun px _ ⟨e19, hpx⟩ => ?_
    subst e19
    obtain ⟨t17, n17⟩ := of_decide_eq_true g18
    dsimp only
    cases hv : validateTs (swapRedAndBlue ⟨_, _, pal, px⟩) with
    | fault g => exact (Out.isFault_eq_false_iff.mp (validateTs_isFault _) g hv).elim
    | err e => exact yields_fail
    | ok u =>
      have hb8 : bd % W16 = 8 := ((validateTs_eq_ok _).mp hv).1
      have hn : pitch 8 (Op2.i32 32) * (-(ph : Int)).natAbs = 32 * ph := by rw [Int.natAbs_neg]; rfl
      rw [hb8, hpw, hn] at hcap hpx
      have hpx : px.length = 32 * ph := hpx
      have hx : pixelHeaderLength ph = 32 * ph := by
        unfold pixelHeaderLength pixelWidth W32; unfold allocCap at hcap; omega
      refine yields_pure ⟨sig.2, bd, fl, pal.map Color.swapRB, ph, px,
        ⟨⟨n1, hl0⟩, ⟨hb8, hbd⟩, hfl, by rw [List.length_map, hP, hb8], h32, hcap, hpx⟩, ?_, ?_⟩
      · rw [hb8, hpw, hn, ← hpx]; rfl
      · subst e1 e2 e3 e4 e5 e6 e7 e8 e9 e10 e11 e12 e13 e14 e15 e16 e17 e18
        rw [t1, t3, n3, htc, hpw, t10, n10, t11, n11, hptc, t14, n14, t17, n17, hx]
        simp only [layoutWith, flatMap_bgra, map_swapRB_swapRB, encPalette, List.append_assoc, List.append_nil,
          List.nil_append]
        rfl

theorem local_custom : Local Rd.custom :=
  Local.of_yields_reads yields_custom fun _ _ ⟨_, _, _, _, _, _, C, e, es⟩ => by rw [e, es]; exact reads_custom C

theorem readCustom_eq_ok {b : Bytes} {f : Bmp} :
    readCustom b = .ok f ↔ ∃ len0 bd fl pal h px, CustomOk len0 bd fl pal h px ∧ f = canon 8 32 (-(h : Int)) pal px ∧
      ∃ rest, b = layoutWith len0 bd fl pal h px ++ rest := by
  rw [readCustom, runOut_eq_ok]
  constructor
  · rintro ⟨rest, hp⟩
    obtain ⟨_, rfl, l, d, fl, pal, n, px, C, e, rfl⟩ := yields_custom _ _ _ hp
    cases e
    exact ⟨l, d, fl, pal, n, px, C, rfl, rest, rfl⟩
  · rintro ⟨_, _, _, _, _, _, C, rfl, rest, rfl⟩
    exact ⟨rest, reads_custom C rest⟩

theorem readCustom_isFault (b : Bytes) : (readCustom b).isFault = false :=
  runOut_isFault_of_yields yields_custom (fun _ _ ⟨_, _, _, _, _, _, _, e, _⟩ => ⟨_, e⟩) b

/-- 1096 = 72 bytes of section headers and header fields (`layoutWith_length`) + 4·256 palette bytes -/
theorem readCustom_length {b : Bytes} {f : Bmp} (h : readCustom b = .ok f) : 1096 + f.pixels.length ≤ b.length := by
  obtain ⟨_, _, _, pal, n, px, C, rfl, rest, rfl⟩ := readCustom_eq_ok.mp h
  show 1096 + px.length ≤ _
  rw [List.length_append, layoutWith_length, C.pal]
  omega

theorem readCustom_prefix {b : Bytes} {f : Bmp} (h : readCustom b = .ok f) (k : Nat) (hk : k < 1096 + f.pixels.length) :
    ∃ e, readCustom (b.take k) = .err e := by
  obtain ⟨_, _, _, pal, n, px, C, rfl, rest, rfl⟩ := readCustom_eq_ok.mp h
  have hk : k < 1096 + px.length := hk
  obtain ⟨e, he⟩ := local_custom.prefix_refused (reads_custom C rest) k (by
    rw [List.length_append, layoutWith_length, C.pal]; omega)
  exact ⟨e, runOut_of_err he⟩

end Op2.Tileset
