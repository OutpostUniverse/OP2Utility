import Op2Proofs.Tileset.Read
/-!
# The format-detecting loader accepts every file written according to the frozen description of the custom
format and returns exactly the described picture as a top-down 8-bit bitmap
-/
namespace Op2.Tileset
open Op2 Op2.Bmp Op2.Parser

theorem ascii_PBMP : Spec.ascii4 'P' 'B' 'M' 'P' = tagPBMP := by decide
theorem ascii_head : Spec.ascii4 'h' 'e' 'a' 'd' = tagHead := by decide
theorem ascii_PPAL : Spec.ascii4 'P' 'P' 'A' 'L' = tagPPAL := by decide
theorem ascii_data : Spec.ascii4 'd' 'a' 't' 'a' = tagData := by decide

theorem encode_eq_layoutWith (p : Spec.Picture) :
    Spec.encode p = layoutWith (1068 + 32 * p.rows.length) 8 8 p.palette p.rows.length p.rows.flatten := by
  unfold Spec.encode layoutWith
  simp only [ascii_PBMP, ascii_head, ascii_PPAL, ascii_data, Spec.le32, List.append_assoc]

/-- the bitmap object the frozen description calls for -/
def bmpOfPicture (p : Spec.Picture) : Bmp :=
  let n := 32 * p.rows.length
  { bh := BmpHeader.create (sizeBmpHeader + sizeImageHeader + 1024 + n) (sizeBmpHeader + sizeImageHeader + 1024),
    ih := { headerSize := sizeImageHeader, width := 32, height := -(p.rows.length : Int), planes := 1, bitCount := 8,
            compression := 0, imageSize := 0, xRes := 0, yRes := 0, used := 0, important := 0 },
    palette := p.palette, pixels := p.rows.flatten }

theorem Spec.Picture.WF.flatten_length {p : Spec.Picture} (hw : p.WF) : p.rows.flatten.length = 32 * p.rows.length := by
  rw [flatten_length_of_rows 32 p.rows rfl hw.2.2.2, Nat.mul_comm]

theorem bmpOfPicture_eq_canon {p : Spec.Picture} (hw : p.WF) :
    bmpOfPicture p = canon 8 32 (-(p.rows.length : Int)) p.palette p.rows.flatten := by
  unfold bmpOfPicture canon
  rw [hw.flatten_length]
  rfl

theorem Spec.Picture.WF.customOk {p : Spec.Picture} (hw : p.WF) (hc : 32 * p.rows.length ≤ allocCap) :
    CustomOk (1068 + 32 * p.rows.length) 8 8 p.palette p.rows.length p.rows.flatten :=
  ⟨by unfold allocCap at hc; unfold W32; omega, by decide, by decide, hw.1, hw.2.1, hc, hw.flatten_length⟩

theorem spec_encode_length (p : Spec.Picture) (hw : p.WF) : (Spec.encode p).length = 1096 + 32 * p.rows.length := by
  rw [encode_eq_layoutWith, layoutWith_length, hw.1, hw.flatten_length]

theorem spec_read (p : Spec.Picture) (hw : p.WF) (hc : 32 * p.rows.length ≤ allocCap) :
    Tileset.read (Spec.encode p) = .ok (bmpOfPicture p) := by
  have hl := spec_encode_length p hw
  refine (read_eq_ok (by rw [hl]; unfold allocCap at hc; unfold W64; omega)).mpr ⟨by omega, Or.inl ⟨?_, ?_⟩⟩
  · rw [encode_eq_layoutWith]; rfl
  · exact readCustom_eq_ok.mpr ⟨_, _, _, _, _, _, hw.customOk hc, bmpOfPicture_eq_canon hw, [], by
      rw [List.append_nil, encode_eq_layoutWith]⟩

end Op2.Tileset
