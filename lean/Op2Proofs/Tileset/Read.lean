import Op2Proofs.Tileset.Custom
import Op2Proofs.Stream.Refine
/-!
The format-detecting loader `ReadTileset`: signature test on the first four bytes, then one of the two readers; what it
does with the bytes `WriteIndexed` wrote.
-/
namespace Op2.Tileset
open Op2 Op2.Bmp Op2.Parser

/-- `PeekIsCustomTileset` on a `MemoryReader` in a legal state -/
theorem peekIsCustom_eval (s : Stream.MemR) (hi : s.Inv) :
    peekIsCustom s =
      (if s.pos + 4 ≤ s.data.length then .ok (decide ((s.data.drop s.pos).take 4 = tagPBMP)) else .error .bounds, s) := by
  unfold peekIsCustom
  rw [Stream.MemR.peek_eq hi]
  by_cases h : s.pos + 4 ≤ s.data.length
  · rw [if_pos h, if_pos h]; rfl
  · rw [if_neg h, if_neg h]

theorem read_eq (b : Bytes) (hb : b.length < W64) :
    Tileset.read b =
      if 4 ≤ b.length then
        (if b.take 4 = tagPBMP then readCustom b
         else match Bmp.read b with
           | .ok f => (match validateTs f with | .ok _ => .ok f | .err e => .err e | .fault g => .fault g)
           | o => o)
      else .err .bounds := by
  unfold Tileset.read
  rw [peekIsCustom_eval _ ⟨Nat.zero_le _, hb⟩]
  simp only [Nat.zero_add, List.drop_zero]
  by_cases h4 : 4 ≤ b.length
  · rw [if_pos h4, if_pos h4]
    by_cases ht : b.take 4 = tagPBMP
    · simp [ht]
    · simp [ht]
      cases Bmp.read b <;> rfl
  · rw [if_neg h4, if_neg h4]

theorem read_eq_ok {b : Bytes} (hb : b.length < W64) {f : Bmp} :
    Tileset.read b = .ok f ↔ 4 ≤ b.length ∧
      (b.take 4 = tagPBMP ∧ readCustom b = .ok f ∨ b.take 4 ≠ tagPBMP ∧ Bmp.read b = .ok f ∧ validateTs f = .ok ()) := by
  rw [read_eq b hb]
  by_cases h4 : 4 ≤ b.length
  · by_cases ht : b.take 4 = tagPBMP
    · simp [h4, ht]
    · simp only [h4, ht, true_and, false_and, false_or, ne_eq, not_false_eq_true]
      cases Bmp.read b with
      | ok g =>
        rcases validateTs_cases g with e | e <;> simp only [e]
        · exact ⟨fun h => by cases h; exact ⟨rfl, e⟩, fun h => h.1⟩
        · exact ⟨fun h => (nomatch h), fun ⟨h, e'⟩ => by cases h; rw [e] at e'; cases e'⟩
      | err e => simp
      | fault g => simp
  · simp [h4]

/-- a prefix long enough to hold the signature is dispatched like the whole file -/
theorem read_take_err {b : Bytes} (hb : b.length < W64) {k : Nat}
    (hc : b.take 4 = tagPBMP → ∃ e, readCustom (b.take k) = .err e)
    (hr : b.take 4 ≠ tagPBMP → ∃ e, Bmp.read (b.take k) = .err e) : ∃ e, Tileset.read (b.take k) = .err e := by
  have hlt : (b.take k).length < W64 := by rw [List.length_take]; omega
  rw [read_eq _ hlt]
  by_cases hk4 : 4 ≤ (b.take k).length
  · have : (b.take k).take 4 = b.take 4 := by
      rw [List.take_take, Nat.min_eq_left (by rw [List.length_take] at hk4; omega)]
    rw [if_pos hk4, this]
    by_cases ht : b.take 4 = tagPBMP
    · rw [if_pos ht]; exact hc ht
    · rw [if_neg ht]
      obtain ⟨e, he⟩ := hr ht
      exact ⟨e, by rw [he]⟩
  · rw [if_neg hk4]; exact ⟨_, rfl⟩

theorem read_loaded {b : Bytes} {f : Bmp} (hb : b.length < W64) (h : Tileset.read b = .ok f) : Loaded f := by
  obtain ⟨_, ⟨_, hc⟩ | ⟨_, hr, _⟩⟩ := (read_eq_ok hb).mp h
  · obtain ⟨_, _, _, _, _, _, C, rfl, _⟩ := readCustom_eq_ok.mp hc
    exact C.loaded
  · exact Bmp.read_loaded hr

theorem read_validateTs {b : Bytes} {f : Bmp} (hb : b.length < W64) (h : Tileset.read b = .ok f) : validateTs f = .ok () := by
  obtain ⟨_, ⟨_, hc⟩ | ⟨_, _, hv⟩⟩ := (read_eq_ok hb).mp h
  · obtain ⟨_, _, _, _, _, _, C, rfl, _⟩ := readCustom_eq_ok.mp hc
    exact C.validateTs
  · exact hv

theorem ValidPicture.validateTs {f : Bmp} (hv : ValidPicture f) : validateTs f = .ok () :=
  (validateTs_eq_ok f).mpr ⟨hv.1, hv.2.1, hv.2.2.1⟩

theorem validPicture_of_loaded {f : Bmp} (L : Loaded f) (hv : validateTs f = .ok ()) : ValidPicture f := by
  obtain ⟨h8, h32, hm⟩ := (validateTs_eq_ok f).mp hv
  have hr := L.ihRange.height
  have hne := L.height_ne
  have hp := L.palette_le
  have hn := L.npix
  rw [h8, h32] at hn
  rw [h8] at hp
  unfold I32_MIN at hne
  exact ⟨h8, h32, hm, by unfold I32_MIN; omega, by unfold I32_MAX; omega, hp, hn⟩

/-- the bitmap route: `ValidateTileset` is applied to the object read back, whose depth, width and height are those of `f` -/
theorem read_written_eq_ok {f g : Bmp} (L : Loaded f) :
    Tileset.read (encode (normalize f)) = .ok g ↔ g = normalize f ∧ validateTs f = .ok () := by
  have hlen := encode_normalize_length L
  have := L.cap; have := L.pow_bits_le
  rw [read_eq_ok (by rw [hlen]; unfold allocCap W64 at *; omega), read_written L]
  have hnot : (encode (normalize f)).take 4 ≠ tagPBMP := fun h => by
    have := congrArg List.head? h
    simp [tagPBMP, encode, normalize, canon, BmpHeader.enc, BmpHeader.create, fileSignature] at this
  constructor
  · rintro ⟨_, ⟨h, _⟩ | ⟨_, h, hv⟩⟩
    · exact (hnot h).elim
    · cases h; exact ⟨rfl, hv⟩
  · rintro ⟨rfl, hv⟩
    exact ⟨by rw [hlen]; omega, Or.inr ⟨hnot, rfl, hv⟩⟩

end Op2.Tileset
