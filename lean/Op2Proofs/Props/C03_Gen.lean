import Op2Model.Clm
import Op2Proofs.Gen.Guards
/-!
# C03 / C20 (CLM) — the refusal conditions of `ClmFile::PrepareIndex` and of the name-length loop of
`ClmFile::CreateArchive`, as regenerated from the current C++ (`Op2Model/Gen/Guards.lean`), are those of the model
(`Clm.prepareIndex`, `Clm.create`) for ALL values of the C++ types.

Ranges: `offset` is the running `uint64_t` sum; at the head of every iteration it is at most 2^32 (it starts as
`60 + 16·n` and the previous iteration's guard passed), `dataLength` is a `uint32_t`.  Under these hypotheses the 64-bit
sum cannot wrap, so `offset + len > UINT32_MAX` and `offset > UINT32_MAX - len` are the same refusal; a 32-bit sum, `>=`,
or `INT32_MAX` are not.
-/
set_option linter.unusedSimpArgs false
namespace Op2.Props.C03Gen
open Op2 Op2.Gen.Guards Op2.GenTactics Op2.GenGuards

theorem C03_gen_prepareIndex_guard : ClmFile_PrepareIndex_guards_translated = true →
    ∀ (off len : Nat), off ≤ W32 → len < W32 →
      (ClmFile_PrepareIndex_refuses off len = true ↔ off + len > Clm.offsetLimit) := by
  gen_bridge =>
    intro off len h1 h2
    unfold ClmFile_PrepareIndex_refuses
    guard_iff
    simp only [Clm.offsetLimit, W32] at *
    (try simp only [gen_norm] at *); omega

theorem C03_gen_prepareIndex_model : ClmFile_PrepareIndex_guards_translated = true →
    ∀ (name : Bytes) (off len : Nat), off ≤ W32 → len < W32 →
      (Clm.prepareIndex off [(name, len)]).isNone = ClmFile_PrepareIndex_refuses off len := by
  gen_bridge h =>
    intro name off len h1 h2
    have hg := C03_gen_prepareIndex_guard h off len h1 h2
    simp only [Clm.prepareIndex]
    by_cases hc : off + len > Clm.offsetLimit
    · simp [hc, hg.mpr hc]
    · have : ClmFile_PrepareIndex_refuses off len = false := by
        cases hr : ClmFile_PrepareIndex_refuses off len with
        | false => rfl
        | true => exact absurd (hg.mp hr) hc
      simp [hc, this]

/-- `std::string::size()` is a `size_t` -/
theorem C03_gen_nameMax_guard : ClmFile_CreateArchive_guards_translated = true →
    ∀ (n : Nat), n < W64 →
      (ClmFile_CreateArchive_refuses n = true ↔ n > Clm.nameMax) := by
  gen_bridge =>
    intro n h1
    unfold ClmFile_CreateArchive_refuses
    guard_iff
    simp only [Clm.nameMax, W64] at *
    (try simp only [gen_norm] at *); omega

end Op2.Props.C03Gen
