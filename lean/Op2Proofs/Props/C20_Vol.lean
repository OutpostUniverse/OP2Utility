import Op2Model.Gen.Layout
import Op2Proofs.Vol.Refuse
/-!
# C20 (VOL part) — `CreateArchive` refuses quantities that do not fit their on-disk fields, before the destination exists

`createFs out files fs` is the effect of `VolFile::CreateArchive(out, files)` on the file system `fs`: the pair of the
resulting file system and the outcome.  `(fs, .error .refused)` says: an error, and nothing was created or altered.
File contents are `Content.bytes b | Content.zeros n`, so a 4 GiB member is a number.
-/
namespace Op2.Vol
open Op2 Op2.Str

theorem C20_gen_lenField : Gen.Layout.mask_VolSectionHeader_length = int32Max := by decide
theorem C20_gen_sizeField : Gen.Layout.off_VolIndexEntry_compressionType - Gen.Layout.off_VolIndexEntry_fileSize = 4 := by decide

/-- **a member that does not fit the 31-bit block length / `int32_t` size field is refused, and nothing is written** —
    whatever else is in the file list, in whatever order -/
theorem C20_vol_member_too_large (out : Bytes) (files : List InFile) (fs : Fs)
    (h : ∃ f ∈ files, f.content.len ≥ 2147483648) : createFs out files fs = (fs, .error .refused) := by
  refine createFs_refused out files fs fun b hb => ?_
  obtain ⟨f, hf, hlen⟩ := h
  have := (create_ok_basic hb).2.1 f (mem_sortCI.mpr hf)
  simp only [int32Max] at this; omega

/-- **an accumulated block offset beyond 32 bits is refused, and nothing is written**: `blockOffset l k` is where the k-th
    block of the archive would start (header plus the padded blocks before it, in ℕ), `l` the inputs in archive order -/
theorem C20_vol_offset_overflow (out : Bytes) (files : List InFile) (fs : Fs)
    (hH : Spec.headerLen (descOf (sortCI nameOf files)) < 2147483648)
    (h : ∃ k, k < files.length ∧ blockOffset (sortCI nameOf files) k > 4294967295) :
    createFs out files fs = (fs, .error .refused) := by
  refine createFs_refused out files fs fun b hb => ?_
  obtain ⟨g, -⟩ := (create_eq_ok hH).mp hb
  obtain ⟨k, hk, hoff⟩ := h
  have hl := length_sortCI nameOf files
  have := (offsFit_iff _ _ _).mp g.fit k (by omega)
  simp only [blockOffset, uint32Max] at *; omega

/-- **converse (non-vacuity of the refusals): just below every limit the archive is written**, and it is the reference
    encoding of the sorted inputs -/
theorem C20_vol_fits_succeeds (out : Bytes) (files : List InFile) (fs : Fs) (h : Fits out files) :
    createFs out files fs = (fs.write out (Spec.refEncode (descOf (sortCI nameOf files))), .ok ()) := by
  unfold createFs
  rw [create_of_good out files h.good]

/-- the two refusals are exactly what separates `Fits` from failure on the size side: if everything else is in order,
    creation succeeds **iff** every member is below 2^31 bytes and every block offset is below 2^32 -/
theorem C20_vol_refusal_exact (out : Bytes) (files : List InFile) (fs : Fs)
    (hn : NoDupCI nameOf files) (hH : Spec.headerLen (descOf (sortCI nameOf files)) < 2147483648)
    (hs : ∀ f ∈ files, Path.pathsAreEqual out f.path = false) (ho : out ≠ []) :
    (createFs out files fs).2 = .ok () ↔
      (∀ f ∈ files, f.content.len < 2147483648) ∧ ∀ k, k < files.length → blockOffset (sortCI nameOf files) k ≤ 4294967295 := by
  constructor
  · intro hok
    refine ⟨fun f hf => Nat.lt_of_not_le fun hc => ?_, fun k hk => Nat.le_of_not_lt fun hc => ?_⟩
    · rw [C20_vol_member_too_large out files fs ⟨f, hf, hc⟩] at hok; cases hok
    · rw [C20_vol_offset_overflow out files fs hH ⟨k, hk, hc⟩] at hok; cases hok
  · rintro ⟨h1, h2⟩
    rw [C20_vol_fits_succeeds out files fs ⟨hn, h1, hH, h2, hs, ho⟩]

/-- a 2 GiB sparse member next to a small one: refused, file system untouched -/
example : createFs [111] [⟨[97], .bytes [1, 2, 3]⟩, ⟨[98], .zeros 2147483648⟩] [([111], [9])] = ([([111], [9])], .error .refused) :=
  C20_vol_member_too_large _ _ _ ⟨⟨[98], .zeros 2147483648⟩, by simp, by simp [Content.len]⟩

/-- the largest member that fits is accepted by `plan` (decided on lengths only) -/
example : ∃ p, plan [111] [⟨[97], .zeros 2147483647⟩] = .ok p ∧ planLength p = 2147483712 := by
  refine ⟨_, rfl, ?_⟩
  decide

end Op2.Vol
