import Op2Model.Gen.Constants
import Op2Model.Gen.Layout
import Op2Proofs.Vol.Refuse
import Op2Proofs.Vol.Search
import Op2Proofs.Vol.ReadRef
import Op2Proofs.Vol.StrictDec
/-!
# C02 — written VOLs conform to an independent description of the format; archives from an independent encoder are read

`Spec.refEncode` is the frozen reference encoder (declarative: every offset is the actual position of what it points to),
`Spec.Desc.Strict d` describes the archives the library itself writes (no unused slots, no slack, every member
uncompressed with size = stored length, names strictly increasing in the `_stricmp`-style order `ltSpec`), and
`Spec.StrictWF b` says `b` is the encoding of a strict description.
-/
namespace Op2.Vol
open Op2 Op2.Str

theorem C02_gen_entryLayout :
    Gen.Layout.off_VolIndexEntry_filenameOffset = 0 ∧ Gen.Layout.off_VolIndexEntry_dataBlockOffset = 4 ∧
    Gen.Layout.off_VolIndexEntry_fileSize = 8 ∧ Gen.Layout.off_VolIndexEntry_compressionType = 12 ∧
    Gen.Layout.size_VolIndexEntry = entrySize := by decide
theorem C02_gen_codes : Gen.Layout.vol_Uncompressed = uncompressed ∧ Gen.Layout.vol_LZH = lzh := by decide
theorem C02_gen_sectionHeader :
    Gen.Layout.size_VolSectionHeader = secSize ∧ Gen.Layout.mask_VolSectionHeader_length = lenMask ∧
    Gen.Layout.mask_VolSectionHeader_padding = padFlag := by decide
/-- the padding constants of `PrepareHeader` are the ones under which its 32-bit formulas equal the declarative layout
    (`(x+7)&~3 = pad4 (x+4)`, `(x+3)&~3 = pad4 x`, `(off+size+11)&~3 = off + 8 + pad4 size`, first block at header end,
    `'VOL '` length = header − 8) -/
theorem C02_gen_layoutConstants :
    (Gen.Constants.vol_namePad_scraped = true → Gen.Constants.vol_namePad = namePad) ∧ (Gen.Constants.vol_indexPad_scraped = true → Gen.Constants.vol_indexPad = indexPad) ∧
    (Gen.Constants.vol_blockPad_scraped = true → Gen.Constants.vol_blockPad = blockPad) ∧
    (Gen.Constants.vol_firstBlockExtra_scraped = true → Gen.Constants.vol_firstBlockExtra = firstBlockExtra) ∧
    (Gen.Constants.vol_headerExtra_scraped = true → Gen.Constants.vol_headerExtra = headerExtra) := by decide

/-- **every archive the library writes is the reference encoding of a strict description** (∀ output path, ∀ file lists).
    Hypotheses: names are what file names can be (no NUL; no byte 0xFF, where the library's signed-char fold and the
    format's unsigned fold would order differently — outside C02's alphabet), and the header is below 2 GiB
    (about 150 million members). -/
theorem C02_writer_conforms (out : Bytes) (files : List InFile) (b : Bytes) (h : create out files = .ok b)
    (hn : ∀ f ∈ files, NameOk (nameOf f))
    (hH : Spec.headerLen (descOf (sortCI nameOf files)) < 2147483648) : Spec.StrictWF b := by
  obtain ⟨g, rfl⟩ := (create_eq_ok hH).mp h
  exact ⟨_, descOf_strict out files g hn, rfl⟩

/-- the executable check used by the harness decides `StrictWF` exactly (so `StrictWF` is decidable: `decide` works on it) -/
theorem C02_strictWF_sound (b : Bytes) (h : Spec.strictWF b = true) : Spec.StrictWF b := Spec.strictWF_sound b h
theorem C02_strictWF_complete (b : Bytes) (h : Spec.StrictWF b) : Spec.strictWF b = true := Spec.strictWF_complete b h
/-- a conforming archive has exactly one strict description: the encoder is injective on strict descriptions -/
theorem C02_description_unique (d₁ d₂ : Spec.Desc) (h₁ : d₁.Strict) (h₂ : d₂.Strict)
    (h : Spec.refEncode d₁ = Spec.refEncode d₂) : d₁ = d₂ := by
  rw [← Spec.parse_refEncode d₁ h₁, ← Spec.parse_refEncode d₂ h₂, h]

/-- **on a conforming archive a case-insensitive binary search over the index order finds every member, in any letter
    case**, and finds nothing else -/
theorem C02_binary_search (d : Spec.Desc) (hd : d.Strict) (i : Nat) (hi : i < d.members.length) (mask : List Bool) :
    Spec.lookup (d.members.map (·.name)) (Spec.anyCase mask d.members[i].name) = some i := by
  have := Spec.lookup_any_case (d.members.map (·.name)) ((strict_iff d).mp hd).2.2.2.2 i (by simpa using hi) mask
  simpa using this

theorem C02_binary_search_sound (d : Spec.Desc) (x : Bytes) (i : Nat)
    (h : Spec.lookup (d.members.map (·.name)) x = some i) :
    ∃ hi : i < d.members.length, Str.eqF Spec.lowerU x d.members[i].name = true := by
  obtain ⟨hi, he⟩ := Spec.lookup_sound _ x i h
  exact ⟨by simpa using hi, by simpa using he⟩

/-- **every archive of the reference encoder is opened with the same names, sizes, kinds and stored payloads** — including
    unused trailing index slots, over-long index sections and arbitrary compression codes (`d.WF`).  `hcap`: the header is
    below the allocation cap of the harness (1 GiB), above which the reader model answers `alloc`. -/
theorem C02_reader_accepts_ref (d : Spec.Desc) (h : d.WF) (hcap : Spec.headerLen d ≤ allocCap) :
    ∃ v : View, Vol.open (Spec.refEncode d) = .ok v ∧ v.count = d.members.length ∧
      v.names = d.members.map (·.name) ∧
      ∀ (i : Nat) (hi : i < d.members.length),
        v.name i = .ok d.members[i].name ∧ v.size i = .ok d.members[i].size ∧
        v.kind i = .ok d.members[i].comp ∧ v.stream i = .ok d.members[i].payload :=
  ⟨refView d, open_refEncode_capped d h hcap, rfl, rfl, refView_members d h⟩

/-! ## non-vacuity -/
example : Spec.StrictWF (Spec.refEncode ⟨[⟨[65], [1, 2, 3], 3, 256⟩, ⟨[98, 46, 99], [], 0, 256⟩], 0, 0⟩) :=
  ⟨_, by show Spec.Desc.strict _ = true; decide, rfl⟩
example : (⟨[⟨[97], [1, 2, 3], 3, 256⟩, ⟨[98], [4], 77, 259⟩], 1, 1⟩ : Spec.Desc).WF := by
  show Spec.Desc.wf _ = true; decide
example : ¬ Spec.StrictWF (Spec.refEncode ⟨[⟨[65], [1, 2, 3], 3, 259⟩], 0, 0⟩) := by decide
example : ∃ b, create [111] [⟨[100, 47, 98], .bytes [7]⟩, ⟨[65], .bytes [1, 2, 3]⟩] = .ok b ∧ Spec.strictWF b = true :=
  ⟨_, rfl, by decide⟩

end Op2.Vol
