import Op2Proofs.Res
import Op2Model.Vol
import Op2Proofs.Props.C19
/-!
# C17 — name lookup and resource resolution are case-blind, consistent, loose-file-first

Archives are seen through their member names (index order) and bytes; the directory layout, the archive load order and
the pattern predicate are parameters, so every statement holds for every order and every pattern.
-/
namespace Op2.Props.C17
open Op2 Op2.Res Op2.Path

/-- membership and index lookup agree -/
theorem C17_contains_iff_index (a : Arch) (n : Bytes) : a.contains n = true ↔ ∃ i, a.index n = some i := by
  unfold Arch.contains Arch.index
  rw [← List.findIdx?_isSome, Option.isSome_iff_exists]

/-- the index returned names a member equal to the query (ignoring case and a leading `./`), and no earlier member is -/
theorem C17_index_names_member (a : Arch) (n : Bytes) (i : Nat) (h : a.index n = some i) :
    ∃ hi : i < a.names.length, pathsAreEqual a.names[i] n = true ∧
      ∀ j (hj : j < i), pathsAreEqual (a.names[j]'(Nat.lt_trans hj hi)) n = false := by
  unfold Arch.index at h
  have h1 := List.findIdx?_eq_some_iff_getElem.mp h
  obtain ⟨hi, hp, hlt⟩ := h1
  refine ⟨hi, hp, ?_⟩
  intro j hj
  have := hlt j hj
  simpa using this

/-- lookup does not depend on how the query is spelled: spellings equal under `PathsAreEqual` (letter case, leading
    `./`) find the same index and give the same membership answer -/
theorem C17_lookup_spelling (a : Arch) (n n' : Bytes) (h : pathsAreEqual n n' = true) :
    a.index n = a.index n' ∧ a.contains n = a.contains n' := by
  unfold Arch.index Arch.contains
  simp only [pathsAreEqual_eq, (pathsAreEqual_iff n n').mp h, and_self]

/-- in particular lookup is blind to letter case -/
theorem C17_lookup_case_blind (a : Arch) (n n' : Bytes) (h : Str.eqCI n n' = true) :
    a.index n = a.index n' ∧ a.contains n = a.contains n' :=
  C17_lookup_spelling a n n' (C19.C19_pathEq_contains_eqCI n n' h)

/-- … and to a leading `./` on any relative name -/
theorem C17_lookup_ignores_dot_slash (a : Arch) (n : Bytes) (hrel : n.head? ≠ some sep) :
    a.index ([dot, sep] ++ n) = a.index n ∧ a.contains ([dot, sep] ++ n) = a.contains n :=
  C17_lookup_spelling a _ _ (C19.C19_pathEq_ignores_leading_dot_slash n hrel)

/-- in a duplicate-free archive looking up the i-th name returns i -/
theorem C17_self_index (a : Arch) (hnd : ∀ i j (hi : i < a.names.length) (hj : j < a.names.length), i ≠ j →
      pathsAreEqual a.names[i] a.names[j] = false) (i : Nat) (hi : i < a.names.length) :
    a.index a.names[i] = some i := by
  unfold Arch.index
  rw [List.findIdx?_eq_some_iff_getElem]
  refine ⟨hi, C19.C19_pathEq_refl _, ?_⟩
  intro j hj
  have := hnd j i (Nat.lt_trans hj hi) hi (by omega)
  simp [this]

/-- out-of-range indices are refused by the per-member calls -/
theorem C17_out_of_range (a : Arch) (i : Nat) (h : a.count ≤ i) : a.name i = .error .bounds ∧ a.stream i = .error .bounds := by
  unfold Arch.name Arch.stream Arch.count at *
  have : ¬ (i < a.names.length) := by omega
  simp [this]

/-- rooted names are refused -/
theorem C17_rooted_refused (L : Layout) (n : Bytes) (acc : Bool) (h : hasRootComponent n = true) :
    getStream L n acc = .error .refused := by
  unfold getStream; rw [if_pos h]

/-- a loose file wins, whatever the archives hold -/
theorem C17_loose_first (L : Layout) (n b : Bytes) (acc : Bool) (hr : hasRootComponent n = false) (h : L.file n = some b) :
    getStream L n acc = .ok (some b) := by
  unfold getStream; rw [if_neg (by simp [hr]), h]

/-- with archive access disabled only loose files are considered -/
theorem C17_no_access (L : Layout) (n : Bytes) (hr : hasRootComponent n = false) (h : L.file n = none) :
    getStream L n false = .ok none := by
  unfold getStream; rw [if_neg (by simp [hr]), h]; rfl

/-- otherwise the bytes of a member of that name from the first loaded archive containing it; otherwise nothing -/
theorem C17_from_archive (L : Layout) (n : Bytes) (hr : hasRootComponent n = false) (h : L.file n = none) :
    (∀ a ∈ L.archives, a.contains n = false) ∧ getStream L n true = .ok none ∨
    ∃ a i, a ∈ L.archives ∧ a.index n = some i ∧ (∃ hi : i < a.names.length, pathsAreEqual a.names[i] n = true) ∧
      getStream L n true = .ok (some (a.contents.getD i [])) := by
  unfold getStream
  rw [if_neg (by simp [hr]), h]
  simp only [Bool.not_true, Bool.false_eq_true, if_false]
  rcases find?_cases (fun a => a.contains n) L.archives with ⟨hf, hno⟩ | ⟨a, hf, ha, hc⟩
  · rw [hf]; exact Or.inl ⟨hno, rfl⟩
  · rw [hf]
    obtain ⟨i, hi⟩ := (C17_contains_iff_index a n).mp hc
    obtain ⟨hlt, hp, _⟩ := C17_index_names_member a n i hi
    exact Or.inr ⟨a, i, ha, hi, ⟨hlt, hp⟩, by simp [hi]⟩

/-- a reported containing archive is a loaded archive and really contains the name; nothing is reported only if no
    loaded archive contains it -/
theorem C17_containing (L : Layout) (n : Bytes) :
    (containing L n = none ∧ ∀ a ∈ L.archives, a.contains n = false) ∨
    ∃ a, a ∈ L.archives ∧ a.contains n = true ∧ containing L n = some a.file := by
  unfold containing
  rcases find?_cases (fun a => a.contains n) L.archives with ⟨hf, hno⟩ | ⟨a, hf, ha, hc⟩
  · rw [hf]; exact Or.inl ⟨rfl, hno⟩
  · rw [hf]; exact Or.inr ⟨a, ha, hc, rfl⟩

/-- the pattern listing is exactly: loose names satisfying the pattern, then member names satisfying it -/
theorem C17_pattern_listing (L : Layout) (pat : Bytes → Bool) (n : Bytes) :
    n ∈ allMatching L pat true ↔
      pat n = true ∧ (n ∈ L.loose.map (·.1) ∨ ∃ a ∈ L.archives, n ∈ a.names) := by
  unfold allMatching
  simp only [Bool.not_true, Bool.false_eq_true, if_false, List.mem_append, List.mem_filter, List.mem_flatMap]
  constructor
  · rintro (⟨h1, h2⟩ | ⟨a, ha, h1, h2⟩)
    · exact ⟨h2, Or.inl h1⟩
    · exact ⟨h2, Or.inr ⟨a, ha, h1⟩⟩
  · rintro ⟨h2, h1 | ⟨a, ha, h1⟩⟩
    · exact Or.inl ⟨h1, h2⟩
    · exact Or.inr ⟨a, ha, h1, h2⟩

theorem C17_pattern_listing_no_access (L : Layout) (pat : Bytes → Bool) :
    allMatching L pat false = (L.loose.map (·.1)).filter pat := by
  unfold allMatching; simp

/-- **type listing**: every loose file whose extension is the argument is listed; everything listed is such a loose
    file or a member (of a loaded archive) whose extension matches ignoring case and an optional dot; and a matching
    member is left out only when a listed name equals it ignoring case -/
theorem C17_type_listing (L : Layout) (ext : Bytes) :
    (∀ n ∈ L.loose.map (·.1), extension n = ext → n ∈ allOfType L ext true) ∧
    (∀ x ∈ allOfType L ext true, (x ∈ L.loose.map (·.1) ∧ extension x = ext) ∨
        ∃ a ∈ L.archives, x ∈ a.names ∧ extensionMatches x ext = true) ∧
    (∀ a ∈ L.archives, ∀ x ∈ a.names, extensionMatches x ext = true →
        x ∈ allOfType L ext true ∨ isDup (allOfType L ext true) x = true) := by
  unfold allOfType
  simp only [Bool.not_true, Bool.false_eq_true, if_false, foldl_addOfType]
  obtain ⟨s1, s2, s3⟩ := addOfType_spec ext (L.archives.flatMap (·.names))
    ((L.loose.map (·.1)).filter (fun n => extension n == ext))
  refine ⟨fun n hn he => s1 n (List.mem_filter.mpr ⟨hn, by simpa using he⟩), fun x hx => ?_,
    fun a ha x hx hm => s3 x (List.mem_flatMap.mpr ⟨a, ha, hx⟩) hm⟩
  rcases s2 x hx with h | ⟨h, hm⟩
  · exact Or.inl ⟨(List.mem_filter.mp h).1, by simpa using (List.mem_filter.mp h).2⟩
  · obtain ⟨a, ha, hxa⟩ := List.mem_flatMap.mp h
    exact Or.inr ⟨a, ha, hxa, hm⟩

/-- non-vacuity: a concrete layout in which a loose file shadows an archive member spelled in another letter case -/
def exArch : Arch := { file := [120, 46, 118, 111, 108], names := [[65, 46, 84, 88, 84]], contents := [[1, 2, 3]] }
def exLayout : Layout := { loose := [([97, 46, 116, 120, 116], [9])], dirs := [], sub := [], archives := [exArch] }
def okIs (r : Except Err (Option Bytes)) (b : Option Bytes) : Bool := match r with | .ok x => x == b | .error _ => false
example : okIs (getStream exLayout [97, 46, 116, 120, 116] true) (some [9]) = true ∧
    okIs (getStream exLayout [65, 46, 116, 120, 116] true) (some [1, 2, 3]) = true ∧
    okIs (getStream exLayout [65, 46, 116, 120, 116] false) none = true := by decide

/-! `Vol.View` (the opened archive of `Op2Model/Vol.lean`, tied to `VolFile` by the C02/C05/C17 runs) distinguishes the member
count from the number of index slots: a foreign archive may have unused trailing slots, and an index that names such a slot
is as out of range as any other. -/

theorem C17_vol_out_of_range (v : Vol.View) (i : Nat) (h : v.count ≤ i) :
    v.name i = .error (.err .bounds) ∧ v.size i = .error (.err .bounds) ∧ v.kind i = .error (.err .bounds) ∧
    v.stream i = .error (.err .bounds) ∧ v.extract i = .error (.err .bounds) ∧ v.lzhLoad i = .error (.err .bounds) := by
  have hv : v.verify i = .error (.err .bounds) := by unfold Vol.View.verify; rw [if_pos h]
  simp only [Vol.View.name, Vol.View.size, Vol.View.kind, Vol.View.stream, Vol.View.extract, Vol.View.lzhLoad,
    Vol.View.blockHeader, Vol.View.entry, hv, Except.map, and_self]

/-- non-vacuity: more slots than members -/
example : ∃ v : Vol.View, v.count = 1 ∧ v.entries.length = 3 ∧ v.size 1 = .error (.err .bounds) :=
  ⟨{ file := [], names := [[97]], count := 1, entries := [default, default, default] }, rfl, rfl, rfl⟩

end Op2.Props.C17
