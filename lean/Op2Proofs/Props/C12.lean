import Op2Proofs.Stream.Nesting
import Op2Proofs.Stream.TypedReads
import Op2Proofs.Stream.SysDerive
import Op2Proofs.Stream.SysTyped
/-!
# C12 — readers deliver exactly the addressed bytes and fail atomically at bounds

`RSpec.step` is the property itself in executable form (ℕ arithmetic, failure = no-op).  The theorems say the
implementation models — `MemoryReader` with its u64 guards, `SliceReader<W>` over any in-bounds-correct `W`,
file slices nested to any depth — are *equal* to it on every operation with every 64-bit argument, hence on
every finite history; the clauses of the property are then read off the spec.
-/
namespace Op2.Props.C12
open Op2 Op2.Stream

theorem C12_memory_reader_refines (ops : List ROp) (s : MemR) (h : s.Inv) (ha : ∀ op ∈ ops, op.argOk) :
    runWith MemR.step s ops = runWith RSpec.step s ops := mem_refines_hist ops s h ha

/-- `SliceReader<W>` for any wrapped stream that is correct on in-bounds calls -/
theorem C12_slice_reader_refines {σ : Type} {W : Wrapped σ} {ab : σ → RSpec} {G : σ → Prop}
    (ok : WrappedOK W ab G) (ops : List ROp) (s : Slice σ) (hs : sliceGood G ab s) (ha : ∀ op ∈ ops, op.argOk) :
    runWith (Slice.step W) s ops = runWith RSpec.step (sliceAbs ab s) ops := (Slice.refines ok).hist ops s hs ha

/-- file slices nested `n + 1` deep -/
theorem C12_nested_file_slice_refines (n : Nat) (ops : List ROp) (s : SliceN (n + 1)) (hs : goodN (n + 1) s)
    (ha : ∀ op ∈ ops, op.argOk) :
    runWith (Slice.step (wrappedN n)) s ops = runWith RSpec.step (absN (n + 1) s) ops :=
  C12_slice_reader_refines (wrappedN_ok n) ops s hs ha

/-- slices of memory-backed streams -/
theorem C12_memory_slice_refines (ops : List ROp) (s : Slice MemR) (hs : sliceGood RSpec.Inv id s)
    (ha : ∀ op ∈ ops, op.argOk) :
    runWith (Slice.step memWrapped) s ops = runWith RSpec.step (sliceAbs id s) ops :=
  C12_slice_reader_refines memWrappedOK ops s hs ha

/-- a successful read returns exactly the source bytes at the position and advances by the count delivered -/
theorem C12_read_exact (s : RSpec) (k : Nat) (b : Bytes) (s' : RSpec) (h : RSpec.step s (.read k) = (.bytes b, s')) :
    b = (s.data.drop s.pos).take k ∧ b.length = k ∧ s'.pos = s.pos + k ∧ s'.data = s.data := by
  simp only [RSpec.step] at h
  split at h
  · rename_i hin
    simp only [Prod.mk.injEq, Out.bytes.injEq] at h
    obtain ⟨hb, hs⟩ := h
    subst hb; subst hs
    refine ⟨rfl, ?_, rfl, rfl⟩
    rw [RSpec.window_length]; omega
  · simp at h

/-- a partial read delivers `min(requested, remaining)` bytes, exactly those at the position -/
theorem C12_partial_read (s : RSpec) (h : s.Inv) (k : Nat) :
    ∃ b s', RSpec.step s (.readPartial k) = (.bytes b, s') ∧ b = (s.data.drop s.pos).take (min k (s.data.length - s.pos)) ∧
      b.length = min k (s.data.length - s.pos) ∧ s'.pos = s.pos + b.length := by
  refine ⟨_, _, rfl, rfl, ?_, ?_⟩
  · rw [RSpec.window_length]; omega
  · simp only; rw [RSpec.window_length]; congr 1; omega

/-- peeking never moves the position -/
theorem C12_peek_keeps_position (s : RSpec) (k : Nat) : (RSpec.step s (.peek k)).2 = s := by
  simp only [RSpec.step]; split <;> rfl

/-- any operation that would leave the bounds fails and leaves the stream exactly as it was -/
theorem C12_failure_is_noop (s : RSpec) (op : ROp) (h : (RSpec.step s op).1 = .err) : (RSpec.step s op).2 = s :=
  RSpec.step_err_noop s op h

/-- an operation fails exactly when its target lies outside `[0, length]` -/
theorem C12_fails_iff_out_of_bounds (s : RSpec) :
    (∀ k, (RSpec.step s (.read k)).1 = .err ↔ ¬ s.pos + k ≤ s.data.length) ∧
    (∀ p, (RSpec.step s (.seek p)).1 = .err ↔ ¬ p ≤ s.data.length) ∧
    (∀ d, (RSpec.step s (.fwd d)).1 = .err ↔ ¬ s.pos + d ≤ s.data.length) ∧
    (∀ d, (RSpec.step s (.back d)).1 = .err ↔ ¬ d ≤ s.pos) := by
  refine ⟨?_, ?_, ?_, ?_⟩ <;> intro x <;> simp only [RSpec.step] <;> split <;> simp_all

/-- the position never exceeds the length, after any history -/
theorem C12_position_bounded (ops : List ROp) : ∀ s : RSpec, s.Inv →
    (ops.foldl (fun st op => (RSpec.step st op).2) s).Inv := by
  induction ops with
  | nil => intro s h; exact h
  | cons op ops ih => intro s h; exact ih _ (RSpec.step_inv s h op)

/-- non-vacuity: a concrete file slice of a 5-byte file satisfies the hypotheses -/
example : sliceGood RSpec.Inv id ({ w := { data := [1, 2, 3, 4, 5], pos := 1 }, start := 1, len := 3 } : Slice FileR) := by
  refine ⟨⟨by decide, by decide⟩, by decide, by decide, by decide⟩

/-- the checked `Read(k)` of the abstract reader written out; `= FileR.read` by `rfl`, `= RSpec.rd` by `fileR_read_eq` -/
def specRead (s : RSpec) (k : Nat) : Except Err (Bytes × RSpec) :=
  if s.pos + k ≤ s.data.length then .ok (s.window k, { s with pos := s.pos + k }) else .error .bounds

/-- a size-prefixed read consumes exactly prefix + payload, or fails -/
theorem C12_prefixed_consumes_exactly (w esz maxSize cap : Nat) (signed : Bool) (s s' : RSpec) (b : Bytes)
    (h : readPrefixed specRead w signed esz maxSize cap s = .ok (b, s')) :
    ∃ n, n = leVal (s.window w) ∧ s'.pos = s.pos + w + n * esz ∧
      b = ((s.data.drop (s.pos + w)).take (n * esz)) ∧ s.pos + w + n * esz ≤ s.data.length := by
  unfold readPrefixed specRead at h
  by_cases hin1 : s.pos + w ≤ s.data.length
  · simp only [if_pos hin1] at h
    split at h
    · cases h
    split at h
    · cases h
    split at h
    · cases h
    split at h
    · next hin2 =>
      cases h
      exact ⟨_, rfl, rfl, rfl, hin2⟩
    · cases h
  · simp only [if_neg hin1] at h
    cases h

/-- negative sizes are rejected -/
theorem C12_prefixed_rejects_negative (w esz maxSize cap : Nat) (s : RSpec)
    (hin : s.pos + w ≤ s.data.length) (hneg : leVal (s.window w) ≥ 2 ^ (8 * w - 1)) :
    readPrefixed specRead w true esz maxSize cap s = .error .refused := by
  unfold readPrefixed specRead
  simp [hin, hneg]

/-- sizes no container can hold are rejected -/
theorem C12_prefixed_rejects_unsatisfiable (w esz maxSize cap : Nat) (signed : Bool) (s : RSpec)
    (hin : s.pos + w ≤ s.data.length) (hbig : leVal (s.window w) > maxSize) :
    ∃ e, readPrefixed specRead w signed esz maxSize cap s = .error e := by
  unfold readPrefixed specRead
  simp only [hin, if_true]
  split
  · exact ⟨_, rfl⟩
  · exact ⟨_, rfl⟩   -- `split` has decided the second test by `hbig`

/-! ## `ReadNullTerminatedString(maxCount)`: exactly the NUL-free prefix, terminator consumed, never more than `maxCount` -/

/-- a bare `FileReader` (model `FileR`), every content, cursor and `maxCount`: the loop delivers what the description
    `ntSpec` says and leaves the cursor after the consumed bytes; the data ending first is an error -/
theorem C12_null_terminated_file (m : Nat) (s : FileR) (h : s.Inv) :
    readNT FileR.read m s [] =
      match ntSpec (s.data.drop s.pos) m with
      | some (str, n) => .ok (str, { s with pos := s.pos + n })
      | none => .error .bounds := by
  rw [fileR_read_eq, readNT_eq m s []]
  cases ntSpec (s.data.drop s.pos) m with
  | none => rfl
  | some p => obtain ⟨str, n⟩ := p; simp

/-- the same of the loop over the `MemoryReader` model (u64 guards), which runs as the abstract reader's does -/
theorem C12_null_terminated (m : Nat) (s : MemR) (h : s.Inv) :
    readNT MemR.rd m s [] =
      match ntSpec (s.data.drop s.pos) m with
      | some (str, n) => .ok (str, { s with pos := s.pos + n })
      | none => .error .bounds := by
  rw [(readNT_sim (rd := MemR.rd) (ab := id) (fun t ht => MemR.rd_sim t 1 ht (by decide)) m s [] h).eq, id, ← fileR_read_eq]
  exact C12_null_terminated_file m s h

/-- a terminator within reach: the string is everything before it and the cursor ends just behind it -/
theorem C12_null_terminated_found (m : Nat) (s : MemR) (h : s.Inv) (str tail : Bytes)
    (hd : s.data.drop s.pos = str ++ 0 :: tail) (hz : ∀ c ∈ str, c ≠ 0) (hm : str.length < m) :
    readNT MemR.rd m s [] = .ok (str, { s with pos := s.pos + str.length + 1 }) := by
  rw [C12_null_terminated m s h, hd, ntSpec_found tail hz hm, Nat.add_assoc]

/-- no terminator among the first `maxCount` bytes: exactly `maxCount` bytes, cursor `maxCount` further -/
theorem C12_null_terminated_maxcount (m : Nat) (s : MemR) (h : s.Inv) (hm : m ≤ s.data.length - s.pos)
    (hz : ∀ c ∈ (s.data.drop s.pos).take m, c ≠ 0) :
    readNT MemR.rd m s [] = .ok ((s.data.drop s.pos).take m, { s with pos := s.pos + m }) := by
  rw [C12_null_terminated m s h, ntSpec_maxcount (by rw [List.length_drop]; exact hm) hz]

/-- the data ends before a terminator and before `maxCount` characters: an error, never a short string -/
theorem C12_null_terminated_runs_out (m : Nat) (s : MemR) (h : s.Inv) (hm : s.data.length - s.pos < m)
    (hz : ∀ c ∈ s.data.drop s.pos, c ≠ 0) :
    readNT MemR.rd m s [] = .error .bounds := by
  rw [C12_null_terminated m s h, ntSpec_runs_out (by rw [List.length_drop]; exact hm) hz]

/-- the executable driver cuts `maxCount` (possibly 2^64-1) at remaining + 1: same answer -/
theorem C12_null_terminated_fuel_cut (m : Nat) (s : MemR) (h : s.Inv) :
    readNT MemR.rd m s [] = readNT MemR.rd (min m (s.data.length - s.pos + 1)) s [] := by
  rw [C12_null_terminated m s h, C12_null_terminated _ s h, ntSpec_fuel_cut]
  simp

example : readNT MemR.rd 10 { data := [1, 65, 66, 0, 67], pos := 1 } [] = .ok ([65, 66], { data := [1, 65, 66, 0, 67], pos := 4 }) := by
  rfl
example : readNT MemR.rd 1 { data := [1, 65, 66, 0, 67], pos := 1 } [] = .ok ([65], { data := [1, 65, 66, 0, 67], pos := 2 }) := by
  rfl
example : readNT MemR.rd 9 { data := [1, 65, 66], pos := 1 } [] = .error .bounds := by rfl


/-! ## `ReadNullTerminatedString` over every slice: the same theorem, by refinement (no correspondence argument) -/

def sliceAhead {σ : Type} (ab : σ → RSpec) (s : Slice σ) : Bytes :=
  (sliceAbs ab s).data.drop (sliceAbs ab s).pos

theorem sliceAhead_length {σ : Type} {W : Wrapped σ} {ab : σ → RSpec} {G : σ → Prop}
    (ok : WrappedOK W ab G) (s : Slice σ) (hs : sliceGood G ab s) :
    (sliceAhead ab s).length = s.len - Slice.position W s := by
  unfold sliceAhead
  rw [List.length_drop, sliceAbs_len s hs, Slice.position_eq ok s hs]

/-- `SliceReader<W>` over ANY wrapped stream that is correct on in-bounds calls, every window, cursor and `maxCount`:
    the loop delivers what `ntSpec` says of the window ahead of the cursor (the NUL-free prefix of the first `maxCount`
    bytes, terminator consumed when met); the slice stays well-formed, still exposes the same window, and its own
    `Position()` has advanced by exactly the consumed count; the window ending first is `Err.bounds` -/
theorem C12_null_terminated_slice {σ : Type} {W : Wrapped σ} {ab : σ → RSpec} {G : σ → Prop}
    (ok : WrappedOK W ab G) (m : Nat) (s : Slice σ) (hs : sliceGood G ab s) :
    match ntSpec (sliceAhead ab s) m with
    | some (str, n) => ∃ s', readNT (Slice.rd W) m s [] = .ok (str, s') ∧ sliceGood G ab s' ∧
        sliceAbs ab s' = { sliceAbs ab s with pos := (sliceAbs ab s).pos + n } ∧
        Slice.position W s' = Slice.position W s + n
    | none => readNT (Slice.rd W) m s [] = .error .bounds := by
  have h := readNT_refined (fun t ht => Slice.rd_sim ok t 1 ht (by decide)) m s hs
  unfold sliceAhead
  cases hn : ntSpec ((sliceAbs ab s).data.drop (sliceAbs ab s).pos) m with
  | none =>
    rw [hn] at h
    obtain ⟨e, he, rfl⟩ := h
    exact he
  | some q =>
    obtain ⟨str, n⟩ := q
    rw [hn] at h
    obtain ⟨s', e, g, a⟩ := h
    refine ⟨s', e, g, a, ?_⟩
    rw [Slice.position_eq ok s' g, Slice.position_eq ok s hs, a]

/-- file slices nested `n + 1` deep -/
theorem C12_null_terminated_nested (n m : Nat) (s : SliceN (n + 1)) (hs : goodN (n + 1) s) :
    match ntSpec (sliceAhead (absN n) s) m with
    | some (str, k) => ∃ s' : SliceN (n + 1), readNT (Slice.rd (wrappedN n)) m s [] = .ok (str, s') ∧ goodN (n + 1) s' ∧
        absN (n + 1) s' = { absN (n + 1) s with pos := (absN (n + 1) s).pos + k } ∧
        Slice.position (wrappedN n) s' = Slice.position (wrappedN n) s + k
    | none => readNT (Slice.rd (wrappedN n)) m s [] = .error .bounds :=
  C12_null_terminated_slice (wrappedN_ok n) m s hs

/-- slices of memory-backed streams, with the window written out -/
theorem C12_null_terminated_memory_slice (m : Nat) (s : Slice MemR) (hs : sliceGood RSpec.Inv id s) :
    match ntSpec (((s.w.data.drop s.start).take s.len).drop (s.w.pos - s.start)) m with
    | some (str, n) => ∃ s', readNT (Slice.rd memWrapped) m s [] = .ok (str, s') ∧ sliceGood RSpec.Inv id s' ∧
        sliceAbs id s' = { sliceAbs id s with pos := (sliceAbs id s).pos + n } ∧
        Slice.position memWrapped s' = Slice.position memWrapped s + n
    | none => readNT (Slice.rd memWrapped) m s [] = .error .bounds :=
  C12_null_terminated_slice memWrappedOK m s hs

/-- slices of files, with the window written out (depth 1 of `C12_null_terminated_nested`) -/
theorem C12_null_terminated_file_slice (m : Nat) (s : Slice FileR) (hs : sliceGood RSpec.Inv id s) :
    match ntSpec (((s.w.data.drop s.start).take s.len).drop (s.w.pos - s.start)) m with
    | some (str, n) => ∃ s', readNT (Slice.rd fileWrapped) m s [] = .ok (str, s') ∧ sliceGood RSpec.Inv id s' ∧
        sliceAbs id s' = { sliceAbs id s with pos := (sliceAbs id s).pos + n } ∧
        Slice.position fileWrapped s' = Slice.position fileWrapped s + n
    | none => readNT (Slice.rd fileWrapped) m s [] = .error .bounds :=
  C12_null_terminated_slice fileWrappedOK m s hs

/-- the executable driver cuts `maxCount` (possibly 2^64-1) at remaining + 1 on slice backends too: the cut loop
    satisfies the description for the uncut `maxCount` -/
theorem C12_null_terminated_slice_fuel_cut {σ : Type} {W : Wrapped σ} {ab : σ → RSpec} {G : σ → Prop}
    (ok : WrappedOK W ab G) (m : Nat) (s : Slice σ) (hs : sliceGood G ab s) :
    match ntSpec (sliceAhead ab s) m with
    | some (str, n) => ∃ s', readNT (Slice.rd W) (min m (s.len - Slice.position W s + 1)) s [] = .ok (str, s') ∧
        sliceGood G ab s' ∧ sliceAbs ab s' = { sliceAbs ab s with pos := (sliceAbs ab s).pos + n } ∧
        Slice.position W s' = Slice.position W s + n
    | none => readNT (Slice.rd W) (min m (s.len - Slice.position W s + 1)) s [] = .error .bounds := by
  have h := C12_null_terminated_slice ok (min m (s.len - Slice.position W s + 1)) s hs
  rw [← sliceAhead_length ok s hs, ← ntSpec_fuel_cut] at h
  rw [← sliceAhead_length ok s hs]
  exact h

/-- a memory slice `[2,5)` of an 8-byte buffer: the hypotheses hold, the string stops at the NUL inside the window,
    the terminator is consumed, the bytes outside the window (another NUL-free run) are never looked at -/
example : sliceGood RSpec.Inv id ({ w := { data := [9, 9, 65, 0, 66, 67, 0, 9], pos := 2 }, start := 2, len := 3 } : Slice MemR) := by
  refine ⟨⟨by decide, by decide⟩, by decide, by decide, by decide⟩
example : readNT (Slice.rd memWrapped) 10 { w := { data := [9, 9, 65, 0, 66, 67, 0, 9], pos := 2 }, start := 2, len := 3 } [] =
    .ok ([65], { w := { data := [9, 9, 65, 0, 66, 67, 0, 9], pos := 4 }, start := 2, len := 3 }) := by rfl
/-- … and from behind that NUL the window ends (at offset 5) before the next terminator (at offset 6): an error -/
example : readNT (Slice.rd memWrapped) 10 { w := { data := [9, 9, 65, 0, 66, 67, 0, 9], pos := 4 }, start := 2, len := 3 } [] =
    .error .bounds := by rfl
example : ntSpec (sliceAhead id ({ w := { data := [9, 9, 65, 0, 66, 67, 0, 9], pos := 2 }, start := 2, len := 3 } : Slice MemR)) 10 =
    some ([65], 2) := by decide
/-- a file slice of a file slice (depth 2) of the same bytes -/
example : readNT (Slice.rd (wrappedN 1)) 10
    ({ w := { w := { data := [9, 9, 65, 0, 66, 67, 0, 9], pos := 2 }, start := 1, len := 6 }, start := 1, len := 3 } : SliceN 2) [] =
    .ok ([65], { w := { w := { data := [9, 9, 65, 0, 66, 67, 0, 9], pos := 4 }, start := 1, len := 6 }, start := 1, len := 3 }) := by rfl

/-- `Read<SizeType>(container)` over a `SliceReader<W>` of ANY in-bounds-correct stream decides, delivers and advances
    exactly as over the abstract reader of the slice's window: same refusals (negative size, beyond `max_size()`,
    beyond the data), same bytes, and the slice stays well-formed over the same window -/
theorem C12_prefixed_slice {σ : Type} {W : Wrapped σ} {ab : σ → RSpec} {G : σ → Prop}
    (ok : WrappedOK W ab G) (s : Slice σ) (hs : sliceGood G ab s)
    (width : Nat) (signed : Bool) (esz maxSize cap : Nat) (hw : width < W64) (hcap : cap ≤ W64) :
    SimRes Eq (sliceAbs ab) (sliceGood G ab) (readPrefixed (Slice.rd W) width signed esz maxSize cap s)
      (readPrefixed RSpec.rd width signed esz maxSize cap (sliceAbs ab s)) :=
  readPrefixed_sim Eq (fun _ => rfl) (Slice.rd W) (sliceAbs ab) (sliceGood G ab)
    (Slice.rd_sim ok) width signed esz maxSize cap hw hcap s hs

/-- … over file slices nested to any depth -/
theorem C12_prefixed_nested (n : Nat) (s : SliceN (n + 1)) (hs : goodN (n + 1) s)
    (width : Nat) (signed : Bool) (esz maxSize cap : Nat) (hw : width < W64) (hcap : cap ≤ W64) :
    SimRes Eq (absN (n + 1)) (goodN (n + 1)) (readPrefixed (Slice.rd (wrappedN n)) width signed esz maxSize cap s)
      (readPrefixed RSpec.rd width signed esz maxSize cap (absN (n + 1) s)) :=
  C12_prefixed_slice (wrappedN_ok n) s hs width signed esz maxSize cap hw hcap

/-- … and over the `MemoryReader` model with its u64 guards: equal to the abstract reader outright -/
theorem C12_prefixed_memory (s : MemR) (h : s.Inv)
    (width : Nat) (signed : Bool) (esz maxSize cap : Nat) (hw : width < W64) (hcap : cap ≤ W64) :
    SimRes Eq id RSpec.Inv (readPrefixed MemR.rd width signed esz maxSize cap s)
      (readPrefixed RSpec.rd width signed esz maxSize cap s) :=
  readPrefixed_sim Eq (fun _ => rfl) MemR.rd id RSpec.Inv MemR.rd_sim width signed esz maxSize cap hw hcap s h

/-- a refused `Read` / `Peek` / `Seek…` leaves the reader exactly as it was — cursor, window, wrapped stream — on the `MemoryReader`
    model, the file model, a file slice and a slice of a file slice; no invariant is assumed and the argument is arbitrary
    (`C12_failure_is_noop` says it of the specification; this says it of every implementation model directly) -/
theorem C12_failure_is_noop_every_backend (r : Rd) (op : ROp) (h : (r.step op).1 = .err) : (r.step op).2 = r :=
  Rd.step_err_noop r op h

/-- the same for the slice-creating requests: a refused `Slice(start,len)` / `Slice(len)` changes nothing -/
theorem C12_refused_request_is_noop (r : Rd) (o : OOp)
    (h : (r.ostep o).1 = .out .err ∨ (r.ostep o).1 = .failed ∨ (r.ostep o).1 = .unsupported) : (r.ostep o).2 = r :=
  Rd.ostep_refused_noop r o h

/-- `ReadNullTerminatedString` over the checked `Read(1)` of ANY backend object (memory, file, file slice, slice of a file slice — the
    exact function the `z` tokens of the correspondence run execute) runs as over the abstract reader of what the object exposes:
    same success / failure, same string, and the object ends well-formed where the abstract reader ends -/
theorem C12_null_terminated_every_backend (r : Rd) (hr : r.Good) (fuel : Nat) (acc : Bytes) :
    SimRes Eq Rd.abs Rd.Good (readNT Rd.read fuel r acc) (readNT RSpec.rd fuel r.abs acc) :=
  readNT_sim (fun t ht => Rd.read_sim t ht 1 (by decide)) fuel r acc hr

/-- `Read<SizeType>(container)` likewise (the `q` / `i` / `v` tokens) -/
theorem C12_prefixed_every_backend (r : Rd) (hr : r.Good) (width : Nat) (signed : Bool) (esz maxSize cap : Nat)
    (hw : width < W64) (hcap : cap ≤ W64) :
    SimRes Eq Rd.abs Rd.Good (readPrefixed Rd.read width signed esz maxSize cap r)
      (readPrefixed RSpec.rd width signed esz maxSize cap r.abs) := Rd.readPrefixed_sim r hr width signed esz maxSize cap hw hcap

end Op2.Props.C12
