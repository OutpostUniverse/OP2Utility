import Op2Proofs.Clm.Create
import Op2Model.Gen.Constants
/-!
# C05, part clm — the CLM reader and the WAV intake of CLM creation are safe on arbitrary bytes

"Always returns" is the statement that the fuelled chunk walk never runs out of the fuel `len / 8 + 1`;
"never reads outside" is the statement that every read the model performs lies inside the file.
-/
namespace Op2.Props.C05_Clm
open Op2 Op2.Wave Op2.Clm

/-- `FindChunk` on arbitrary bytes: some fuel not larger than `len / 8 + 1` suffices, whatever the chunk lengths say
    (files are shorter than 2^63 bytes: `off_t`) -/
theorem C05_walk_terminates (c : Content) (tag : Bytes) (hlen : c.len < 2 ^ 63) :
    ∃ fuel, fuel ≤ c.len / 8 + 1 ∧ walk cursorW c tag fuel riffHeaderSize ≠ .fuelOut :=
  ⟨fuelFor c, Nat.le_refl _, walk_lib_terminates c tag hlen⟩

/-- … and the answer does not depend on how much more fuel is given -/
theorem C05_walk_fuel_independent (c : Content) (tag : Bytes) (fuel pos k : Nat)
    (h : walk cursorW c tag fuel pos ≠ .fuelOut) : walk cursorW c tag (fuel + k) pos = walk cursorW c tag fuel pos :=
  walk_fuel_mono cursorW c tag fuel pos k h

/-- arbitrary bytes offered as WAVs to CLM creation end in an error or an archive — never in a hang -/
theorem C05_create_returns (files : List (Bytes × Content)) (hlen : ∀ f ∈ files, f.2.len < 2 ^ 63) :
    create files ≠ .hang := create_ne_hang files hlen

/-- non-vacuity: on a real two-chunk file the walk passes a chunk and finds `data` -/
example : find ⟨tagRIFF ++ encU32 28 ++ tagWAVE ++ [0x4c, 0x49, 0x53, 0x54] ++ encU32 2 ++ [1, 2] ++ tagData ++ encU32 2 ++ [7, 8], 0⟩ tagData
    = .at 2 30 := by decide

/-! ## D9: the pinned 32-bit cursor does not have this property -/

/-- `RIFF` 20 `WAVE`, one chunk `junk` whose length field is 0xFFFFFFF8, 8 more bytes -/
def d9Witness : Content :=
  ⟨tagRIFF ++ encU32 20 ++ tagWAVE ++ [0x6a, 0x75, 0x6e, 0x6b] ++ encU32 0xFFFFFFF8 ++ zeros 8, 0⟩

/-- with `uint32_t currentPosition` (the pinned code) no amount of fuel is enough: position 12 is reached again and again -/
theorem C05_D9_32bit_cursor_never_returns : ∀ fuel, walk W32 d9Witness tagFmt fuel 12 = .fuelOut
  | 0 => rfl
  | fuel + 1 => by
    rw [walk_succ]
    have h1 : 12 + chunkHeaderSize ≤ d9Witness.len := by decide
    have h2 : ¬ (d9Witness.read 12 chunkHeaderSize).take 4 = tagFmt := by decide
    have h3 : (12 + (decU32 ((d9Witness.read 12 chunkHeaderSize).drop 4) + chunkHeaderSize)) % W32 = 12 := by decide
    rw [if_pos h1, if_neg h2, h3, if_pos (by decide)]
    exact C05_D9_32bit_cursor_never_returns fuel

/-- the same file is answered (refused) by the 64-bit cursor in one round -/
example : find d9Witness tagFmt = .none := by decide

/-- a stream that is delivered is exactly the file bytes at the extent the index entry records, all of them -/
theorem C05_stream_exact (v : View) (file : Bytes) (i : Nat) (b : Bytes) (h : v.stream file i = .ok b) :
    ∃ e, v.entries[i]? = some e ∧ e.off + e.len ≤ file.length ∧ b = (file.drop e.off).take e.len ∧ b.length = e.len := by
  obtain ⟨e, he, hx⟩ := Except.bind_eq_ok.mp h
  obtain ⟨hin, rfl⟩ := extent_eq_ok.mp hx
  exact ⟨e, View.entry_eq_ok.mp he, hin, rfl, by rw [List.length_take, List.length_drop]; omega⟩

/-- a member whose recorded extent does not lie inside the file is refused -/
theorem C05_stream_refuses_outside (v : View) (file : Bytes) (i : Nat) (e : Entry)
    (he : v.entries[i]? = some e) (hout : file.length < e.off + e.len) : v.stream file i = .error .bounds := by
  rw [View.stream_of he]
  unfold extent
  rw [if_neg (by omega)]

/-- an index beyond the member count is refused by every call -/
theorem C05_index_out_of_bounds (v : View) (file : Bytes) (i : Nat) (h : v.count ≤ i) :
    v.name i = .error .bounds ∧ v.size i = .error .bounds ∧ v.stream file i = .error .bounds ∧
    v.extractWav file i = .error .bounds := by
  have he : v.entries[i]? = none := List.getElem?_eq_none (by unfold View.count at h; omega)
  unfold View.name View.size View.stream View.extractWav View.entry
  rw [he]
  exact ⟨rfl, rfl, rfl, rfl⟩

/-- extraction writes the 46-byte header followed by exactly the recorded extent, or refuses -/
theorem C05_extract_exact (v : View) (file : Bytes) (i : Nat) (w : Bytes) (h : v.extractWav file i = .ok w) :
    ∃ e, v.entries[i]? = some e ∧ e.off + e.len ≤ file.length ∧ w = wavHeader v.fmt e.len ++ (file.drop e.off).take e.len := by
  obtain ⟨e, he, hx⟩ := Except.bind_eq_ok.mp h
  obtain ⟨d, hd, hw⟩ := Except.bind_eq_ok.mp hx
  obtain ⟨hin, rfl⟩ := extent_eq_ok.mp hd
  exact ⟨e, View.entry_eq_ok.mp he, hin, (Except.ok.inj hw).symm⟩

/-- a file is opened only when the whole header and the whole index (as many entries as the header announces) lie inside it;
    entry `i` of the view is the 16 bytes at `60 + 16 i` -/
theorem C05_open_reads_inside (b : Bytes) (v : View) (h : Clm.open b = .ok v) :
    60 + 16 * v.count ≤ b.length ∧ v.count = decU32 (b.drop 56) ∧
    ∀ i, i < v.count → v.entries[i]? =
      some ⟨(b.drop (60 + 16 * i)).take 8, decU32 (b.drop (60 + 16 * i + 8)), decU32 (b.drop (60 + 16 * i + 12))⟩ := by
  obtain ⟨_, _, _, _, h5, rfl⟩ := open_eq_ok.mp h
  have hc : View.count ⟨(b.drop 32).take 18, parseEntries (decU32 (b.drop 56)) (b.drop headerSize)⟩ = decU32 (b.drop 56) := by
    simp [View.count, parseEntries_length]
  rw [hc]
  refine ⟨by unfold headerSize entrySize at h5; omega, rfl, ?_⟩
  intro i hi
  simp only
  rw [parseEntries_get _ _ i hi]
  simp only [List.drop_drop, headerSize]
  have e1 : 60 + 16 * i + 8 = 60 + (16 * i + 8) := by omega
  have e2 : 60 + 16 * i + 12 = 60 + (16 * i + 12) := by omega
  rw [e1, e2]

/-- every prefix that cuts into the header or the index is refused -/
theorem C05_truncated_refused (b : Bytes) (v : View) (h : Clm.open b = .ok v) (k : Nat) (hk : k < 60 + 16 * v.count) :
    ∀ v', Clm.open (b.take k) ≠ .ok v' := by
  intro v' h'
  have a := C05_open_reads_inside b v h
  have a' := C05_open_reads_inside (b.take k) v' h'
  have hlen : (b.take k).length = min k b.length := List.length_take
  -- the count field lies inside the common prefix
  rw [a'.2.1, List.drop_take, Codec.decU32_take _ _ (by omega), ← a.2.1] at a'
  omega

/-- the opened archive is a value: a call's outcome is a function of the view, the file and the call's own argument, so
    a failed (or any) call cannot influence a later one.  (The C++ object keeps no mutable state after construction —
    every stream is served by a fresh `FileReader`; the tie to the code is the long-lived-vs-fresh comparison of the
    correspondence run.) -/
theorem C05_history_independent (v : View) (file : Bytes) (before : List Nat) (i : Nat) :
    (before.map (fun j => v.stream file j), v.stream file i).2 = v.stream file i := rfl

/-- the cursor of `FindChunk` in the current source has the width the model uses -/
theorem C05_gen_cursor_width : Gen.Constants.clm_cursorBits_scraped = true → 2 ^ Gen.Constants.clm_cursorBits = Wave.cursorW := by decide

end Op2.Props.C05_Clm
