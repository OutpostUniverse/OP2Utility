import Op2Proofs.Bmp.GenBridge
import Op2Proofs.Bmp.RoundTrip
import Op2Model.Gen.Layout
/-!
# C08 — indexed bitmaps read back valid and round-trip pixels, palette, geometry

Model: `Op2Model/Bmp.lean` (`read`, `write`, `validate`, `create1/2/3`, `invert`).
-/
namespace Op2.Props.C08
open Op2 Op2.Bmp

/-- for every width and depth: the row size in ℕ is a multiple of four, holds `w·bits` bits, and no smaller multiple of
    four does -/
theorem C08_pitch_law (bits w : Nat) :
    pitchN bits w % 4 = 0 ∧ w * bits ≤ 8 * pitchN bits w ∧ ∀ m, m % 4 = 0 → w * bits ≤ 8 * m → pitchN bits w ≤ m :=
  pitchN_law bits w

/-- the `size_t` formula of the code equals the ℕ law on every non-negative `int32_t` width and every `uint16_t` depth -/
theorem C08_pitch_model (bits : Nat) (w : Int) (hb : bits < 65536) (h0 : 0 ≤ w) (h1 : w < 2147483648) :
    pitch bits w = pitchN bits w.toNat ∧ pixByteWidth bits w = (w.toNat * bits + 7) / 8 :=
  ⟨pitch_of_nonneg bits w hb h0 h1, pixByteWidth_of_nonneg bits w hb h0 h1⟩

open Op2.Gen.Formulas in
/-- `ImageHeader::CalcPixelByteWidth` / `CalculatePitch` as translated from the current source are the model's
    formulas on the whole argument range (negative widths included) -/
theorem C08_gen_pitch (bits : Nat) (w : Int) (hb : bits < 65536) :
    (gen_CalcPixelByteWidth_translated && gen_CalculatePitch_translated) = true →
    gen_CalcPixelByteWidth (bits : Int) w = (pixByteWidth bits w : Nat) ∧ gen_CalculatePitch (bits : Int) w = (pitch bits w : Nat) := by
  intro h
  exact ⟨gen_CalcPixelByteWidth_eq bits w hb (Bool.and_eq_true_iff.mp h).1, gen_CalculatePitch_eq bits w hb h⟩

open Op2.Gen.Layout in
/-- the on-disk records are laid out as the model's serialisers write them, and the default constants are the model's -/
theorem C08_gen_layout :
    size_BmpHeader = sizeBmpHeader ∧ off_BmpHeader_fileSignature = 0 ∧ off_BmpHeader_size = 2 ∧ off_BmpHeader_reserved1 = 6 ∧
    off_BmpHeader_reserved2 = 8 ∧ off_BmpHeader_pixelOffset = 10 ∧
    size_ImageHeader = sizeImageHeader ∧ off_ImageHeader_headerSize = 0 ∧ off_ImageHeader_width = 4 ∧ off_ImageHeader_height = 8 ∧
    off_ImageHeader_planes = 12 ∧ off_ImageHeader_bitCount = 14 ∧ off_ImageHeader_compression = 16 ∧ off_ImageHeader_imageSize = 20 ∧
    off_ImageHeader_xResolution = 24 ∧ off_ImageHeader_yResolution = 28 ∧ off_ImageHeader_usedColorMapEntries = 32 ∧
    off_ImageHeader_importantColorCount = 36 ∧
    size_Color = 4 ∧ off_Color_red = 0 ∧ off_Color_green = 1 ∧ off_Color_blue = 2 ∧ off_Color_alpha = 3 ∧
    bmp_FileSignature = fileSignature.map UInt8.toNat ∧ bmp_ValidBitCounts = validBitCounts ∧
    bmp_DefaultPlanes = 1 ∧ bmp_DefaultImageSize = 0 ∧ bmp_DefaultXResolution = 0 ∧ bmp_DefaultYResolution = 0 ∧
    bmp_DefaultUsedColorMapEntries = 0 ∧ bmp_DefaultImportantColorCount = 0 ∧ bmp_DefaultReserved1 = 0 ∧ bmp_DefaultReserved2 = 0 ∧
    bmp_CompressionUncompressed = 0 ∧ bmp_Black = Color.black.enc.map UInt8.toNat := by decide

/-- the header serialisers write records of the measured sizes -/
theorem C08_enc_lengths (b : BmpHeader) (h : ImageHeader) (hs : b.sig.length = 2) :
    b.enc.length = sizeBmpHeader ∧ h.enc.length = sizeImageHeader :=
  ⟨b.enc_length hs, h.enc_length⟩

/-- every byte string the reader accepts yields a bitmap that passes the library's own `Validate`, has a non-negative
    width, exactly `|height|` rows of the smallest multiple-of-four length holding `width·bits` bits, and a palette no
    longer than the depth allows -/
theorem C08_read_valid (b : Bytes) (f : Bmp) (h : Bmp.read b = .ok f) :
    validate f = .ok () ∧ 0 ≤ f.ih.width ∧
    f.pixels.length = pitchN f.ih.bitCount f.ih.width.toNat * f.ih.height.natAbs ∧
    (storedRows f.pixels (pitchN f.ih.bitCount f.ih.width.toNat) f.ih.height.natAbs).length = f.ih.height.natAbs ∧
    (∀ r ∈ storedRows f.pixels (pitchN f.ih.bitCount f.ih.width.toNat) f.ih.height.natAbs,
        r.length = pitchN f.ih.bitCount f.ih.width.toNat) ∧
    (storedRows f.pixels (pitchN f.ih.bitCount f.ih.width.toNat) f.ih.height.natAbs).flatten = f.pixels ∧
    f.palette.length ≤ 2 ^ f.ih.bitCount ∧ (f.ih.bitCount = 1 ∨ f.ih.bitCount = 4 ∨ f.ih.bitCount = 8) := by
  have L := read_loaded h
  have hp : pitch f.ih.bitCount f.ih.width = pitchN f.ih.bitCount f.ih.width.toNat :=
    pitch_of_nonneg _ _ (by have := L.bits_le; omega) L.width_nonneg L.ihRange.width.2
  have hn := L.rows
  rw [hp] at hn
  exact ⟨L.validate_ok, L.width_nonneg, hp ▸ L.npix, storedRows_length _ _ _,
    storedRows_row_length _ _ _ (Nat.le_of_eq hn.symm), storedRows_flatten _ _ _ hn, L.palette_le, L.bits⟩

/-! ## `InvertScanLines` -/

/-- flipping once reverses the row list and negates the height, leaving everything else alone; flipping twice restores
    the original.  (`read` refuses height −2^31, the one height whose negation is undefined.) -/
theorem C08_invert (b : Bytes) (f : Bmp) (h : Bmp.read b = .ok f) :
    ∃ g, invert f = .ok g ∧ g.ih.height = -f.ih.height ∧
      storedRows g.pixels (pitch f.ih.bitCount f.ih.width) f.ih.height.natAbs =
        (storedRows f.pixels (pitch f.ih.bitCount f.ih.width) f.ih.height.natAbs).reverse ∧
      g.pixels.length = f.pixels.length ∧
      g.bh = f.bh ∧ g.palette = f.palette ∧ g.ih = { f.ih with height := -f.ih.height } ∧
      invert g = .ok f := by
  have L := read_loaded h
  exact ⟨flipped f, L.invert_ok, rfl, storedRows_reversed _ _ _ L.rows_le, (reversed_length _ _ _ L.rows_le).trans L.rows.symm, rfl, rfl,
    rfl, by rw [L.flipped.invert_ok, flipped_flipped f L.rows]⟩

/-! ## write, then read (`WriteIndexed` followed by `ReadIndexed`) -/

/-- whatever the reader accepted can be written, and the written bytes read back with the same geometry and depth, the
    palette extended entry for entry to `2^bits` colours, and every stored row equal to its meaningful bytes followed by
    zero padding -/
theorem C08_rt (b : Bytes) (f : Bmp) (h : Bmp.read b = .ok f) :
    ∃ w f', write f = .ok w ∧ Bmp.read w = .ok f' ∧
      f'.ih.width = f.ih.width ∧ f'.ih.height = f.ih.height ∧ f'.ih.bitCount = f.ih.bitCount ∧
      f.palette <+: f'.palette ∧ f'.palette.length = 2 ^ f.ih.bitCount ∧
      f'.pixels.length = f.pixels.length ∧
      storedRows f'.pixels (pitch f.ih.bitCount f.ih.width) f.ih.height.natAbs =
        (storedRows f.pixels (pitch f.ih.bitCount f.ih.width) f.ih.height.natAbs).map
          (fun r => r.take (pixByteWidth f.ih.bitCount f.ih.width) ++
                    zeros (pitch f.ih.bitCount f.ih.width - pixByteWidth f.ih.bitCount f.ih.width)) := by
  have L := read_loaded h
  exact ⟨_, normalize f, L.write_ok, read_written L, rfl, rfl, rfl, List.prefix_append _ _, L.fullPalette_length,
    normalize_pixels_length L, storedRows_padded _ _ _ _ (pixByteWidth_le_pitch _ _) L.rows_le⟩

/-- a 1-bit 1×1 file: 14 + 40 header bytes, two palette entries, one padded row -/
def sample : Bytes :=
  [0x42, 0x4D, 0x42, 0, 0, 0, 0, 0, 0, 0, 0x3E, 0, 0, 0,
   0x28, 0, 0, 0, 1, 0, 0, 0, 1, 0, 0, 0, 1, 0, 1, 0, 0, 0, 0, 0, 0, 0, 0, 0, 0, 0, 0, 0, 0, 0, 0, 0, 0, 0, 0, 0, 0, 0, 0, 0,
   0, 0, 0, 0, 0xFF, 0xFF, 0xFF, 0,
   0x80, 0, 0, 0]

/-- non-vacuity: the reader accepts `sample` -/
example : (Bmp.read sample).isOk = true := by decide

/-- padding bytes of every stored row are zero -/
def CleanPadding (f : Bmp) : Prop :=
  ∀ r ∈ storedRows f.pixels (pitch f.ih.bitCount f.ih.width) f.ih.height.natAbs,
    r.drop (pixByteWidth f.ih.bitCount f.ih.width) = zeros (pitch f.ih.bitCount f.ih.width - pixByteWidth f.ih.bitCount f.ih.width)

/-- `CreateIndexed(bitCount, width, height)`: what it returns is written and read back unchanged -/
theorem C08_factory_rt1 (bits w : Nat) (h : Int) (f : Bmp) (hh : -2147483648 ≤ h ∧ h < 2147483648)
    (hc : create1 bits w h = .ok f) : ∃ wr, write f = .ok wr ∧ Bmp.read wr = .ok f := by
  obtain ⟨s, hs, rfl⟩ := create1_ok_shape hc
  exact shape_rt_zeros hs hh _ (by rw [List.length_replicate, (shape_npal hs hh)])

/-- `CreateIndexed(bitCount, width, height, palette)` -/
theorem C08_factory_rt2 (bits w : Nat) (h : Int) (pal : List Color) (f : Bmp) (hh : -2147483648 ≤ h ∧ h < 2147483648)
    (hc : create2 bits w h pal = .ok f) : ∃ wr, write f = .ok wr ∧ Bmp.read wr = .ok f := by
  obtain ⟨s, hs, hp, rfl⟩ := create2_ok_shape hc
  exact shape_rt_zeros hs hh _ (padded_palette_length hp (shape_npal hs hh))

/-- `CreateIndexed(bitCount, width, height, palette, pixels)`: unchanged when the supplied rows have zero padding -/
theorem C08_factory_rt3 (bits w : Nat) (h : Int) (pal : List Color) (px : Bytes) (f : Bmp)
    (hh : -2147483648 ≤ h ∧ h < 2147483648) (hc : create3 bits w h pal px = .ok f) (hp : CleanPadding f) :
    ∃ wr, write f = .ok wr ∧ Bmp.read wr = .ok f := by
  obtain ⟨s, hs, hl, rfl, hv⟩ := create3_ok_shape hc
  exact shape_rt hs hh _ px (padded_palette_length hl (shape_npal hs hh)) (verify_npix hs hh hv) hp

/-- non-vacuity of the factory round trips: each factory returns an object for small arguments -/
example : (create1 8 3 (-2)).isOk = true := by decide
example : (create2 4 5 2 [⟨1, 2, 3, 0⟩]).isOk = true := by decide
example : (create3 1 1 1 [] [0x80, 0, 0, 0]).isOk = true := by decide

/-- the hypothesis `CleanPadding` of `C08_factory_rt3` cannot be dropped: a supplied row with a non-zero padding byte is
    accepted by the factory and comes back changed (the writer zeroes the padding) -/
example : ∃ f wr f', create3 1 1 1 [] [0x80, 1, 0, 0] = .ok f ∧ write f = .ok wr ∧ Bmp.read wr = .ok f' ∧ f' ≠ f := by
  -- what comes back is the normal form of `f`, and that has the padding byte zeroed
  obtain ⟨f, hf⟩ : ∃ f, create3 1 1 1 [] [0x80, 1, 0, 0] = .ok f := ⟨_, rfl⟩
  obtain ⟨s, hs, hl, rfl, hv⟩ := create3_ok_shape hf
  have hh : (-2147483648 : Int) ≤ 1 ∧ (1 : Int) < 2147483648 := by decide
  obtain ⟨e, L⟩ := shape_canon hs hh (padded_palette_length hl (shape_npal hs hh)) (verify_npix hs hh hv)
  rw [e] at hf
  exact ⟨_, _, _, hf, L.write_ok, read_written L, fun h => absurd (congrArg Bmp.pixels h)
    (by decide : ¬ (normalize (canon 1 (Op2.i32 1) 1 [] [0x80, 1, 0, 0])).pixels = [0x80, 1, 0, 0])⟩

end Op2.Props.C08
