import Op2Model.Stream
import Op2Model.Gen.Streams
import Op2Proofs.Gen.Bridge
/-!
# C12 — bridging lemmas: the guards and cursor updates of `MemoryReader` and `SliceReader<W>`, as translated from the
current C++ on this run (`Op2Model/Gen/Streams.lean`), are those of the hand-written models `MemR.*` / `Slice.*`
for which the refinement theorems of `C12.lean` are proved.

Arguments range over the whole of `[0, 2^64)`, so the wrap-around behaviour of a guard is part of what is compared; the
object is any state satisfying the class invariant the refinement theorems maintain (`pos ≤ length < 2^64`; for a slice
`start ≤ wrapped position ≤ start + length ≤ wrapped length < 2^64`), so a rewrite that is equivalent on reachable
states passes.
-/
set_option linter.unusedSimpArgs false

namespace Op2.GenBridge
open Op2 Op2.Stream

/-- a wrapped stream that only reports a length and a position and records the argument of the last call it
    received: instantiating the (parametric) `Slice` model with it exposes the model's guard and the value it
    passes down, without restating either -/
structure Probe where
  length : Nat
  position : Nat
  arg : Int := -1

@[reducible] def probeW : Wrapped Probe where
  length p := p.length
  position p := p.position
  read p k := .ok ([], { p with arg := k })
  readPartial p k := ([], { p with arg := k })
  seek p k := .ok { p with arg := k }
  fwd p k := .ok { p with arg := k }
  back p k := .ok { p with arg := k }

end Op2.GenBridge

namespace Op2.Props.C12
open Op2 Op2.Stream Op2.GenBridge
open Op2.Gen.Streams

theorem C12_gen_memr_seek : MemoryReader_Seek_translated = true →
    ∀ (s : MemR) (p : Nat), s.Inv → p < W64 →
      MemoryReader_Seek s.data.length s.pos p = okOr (fun s' : MemR => (s'.pos : Int)) (MemR.seek s p) := by
  gen_bridge =>
    intro s p hi hk
    obtain ⟨hi, hl⟩ := hi
    simp only [MemR.seek]
    split <;> simp only [okOr_ok, okOr_error] <;>
    simp only [MemoryReader_Seek, u64, W64] at * <;> gen_close

/-- `SeekForward`: same guard (both disjuncts, in 64-bit arithmetic), same new position -/
theorem C12_gen_memr_fwd : MemoryReader_SeekForward_translated = true →
    ∀ (s : MemR) (d : Nat), s.Inv → d < W64 →
      MemoryReader_SeekForward s.data.length s.pos d = okOr (fun s' : MemR => (s'.pos : Int)) (MemR.fwd s d) := by
  gen_bridge =>
    intro s d hi hk
    obtain ⟨hi, hl⟩ := hi
    simp only [MemR.fwd]
    split <;> simp only [okOr_ok, okOr_error] <;>
    simp only [MemoryReader_SeekForward, u64, W64] at * <;> gen_close

theorem C12_gen_memr_back : MemoryReader_SeekBackward_translated = true →
    ∀ (s : MemR) (d : Nat), s.Inv → d < W64 →
      MemoryReader_SeekBackward s.data.length s.pos d = okOr (fun s' : MemR => (s'.pos : Int)) (MemR.back s d) := by
  gen_bridge =>
    intro s d hi hk
    obtain ⟨hi, hl⟩ := hi
    simp only [MemR.back]
    split <;> simp only [okOr_ok, okOr_error] <;>
    simp only [MemoryReader_SeekBackward, u64, W64] at * <;> gen_close

/-- `ReadImplementation`: same guard; on success the new position, and the `memcpy` source offset and length are the
    model's `pos'`, `pos`, `k` — the model returns `s.window k = (data.drop pos).take k`, the bytes so addressed -/
theorem C12_gen_memr_read : MemoryReader_ReadImplementation_translated = true →
    ∀ (s : MemR) (k : Nat), s.Inv → k < W64 →
      MemoryReader_ReadImplementation s.data.length s.pos k =
        okOr (fun r : Bytes × MemR => ((r.2.pos : Int), (s.pos : Int), (k : Int))) (MemR.read s k) := by
  gen_bridge =>
    intro s k hi hk
    obtain ⟨hi, hl⟩ := hi
    simp only [MemR.read]
    split <;> simp only [okOr_ok, okOr_error] <;>
    simp only [MemoryReader_ReadImplementation, u64, W64] at * <;> gen_close

/-- `ReadPartial`: for the count `n` the model computes, the generated function moves the position to the same place,
    returns `n`, and copies `n` bytes from offset `pos` -/
theorem C12_gen_memr_readPartial : MemoryReader_ReadPartial_translated = true →
    ∀ (s : MemR) (k : Nat), s.Inv → k < W64 →
      ∃ n : Nat, MemR.readPartial s k = (s.window n, { s with pos := u64 (s.pos + n) }) ∧
        MemoryReader_ReadPartial s.data.length s.pos k = some (((u64 (s.pos + n) : Nat) : Int), (n : Int), (s.pos : Int), (n : Int)) := by
  gen_bridge =>
    intro s k hi hk
    obtain ⟨hi, hl⟩ := hi
    refine ⟨_, rfl, ?_⟩
    generalize hn : (if k < u64 (W64 + s.data.length - s.pos) then k else u64 (W64 + s.data.length - s.pos)) = n
    split at hn <;> simp only [MemoryReader_ReadPartial, u64, W64] at * <;> gen_close

/-- `Slice(start, length) const`: same guard; the new reader is built from `&streamBuffer[start]`, `length` — the
    model's `(data.drop start).take length` -/
theorem C12_gen_memr_slice2 : MemoryReader_Slice2_translated = true →
    ∀ (s : MemR) (a n : Nat), s.Inv → a < W64 → n < W64 →
      MemoryReader_Slice2 s.data.length s.pos a n = okOr (fun _ : MemR => ((a : Int), (n : Int))) (MemR.slice2 s a n) := by
  gen_bridge =>
    intro s a n hi ha hn
    obtain ⟨hi, hl⟩ := hi
    simp only [MemR.slice2]
    split <;> simp only [okOr_ok, okOr_error] <;>
    simp only [MemoryReader_Slice2, u64, W64] at * <;> gen_close

/-- `Slice(length)`: slice at the position, then advance; fails when either step fails -/
theorem C12_gen_memr_slice1 : (MemoryReader_Slice1_translated && MemoryReader_Slice2_translated &&
      MemoryReader_SeekForward_translated) = true →
    ∀ (s : MemR) (n : Nat), s.Inv → n < W64 →
      MemoryReader_Slice1 s.data.length s.pos n =
        okOr (fun r : MemR × MemR => ((r.2.pos : Int), (s.pos : Int), (n : Int))) (MemR.slice1 s n) := by
  gen_bridge h =>
    intro s n hi hn
    simp only [Bool.and_eq_true] at h
    have hp : s.pos < W64 := Nat.lt_of_le_of_lt hi.1 hi.2
    have h2 := C12_gen_memr_slice2 h.1.2 s s.pos n hi hp hn
    have hf := C12_gen_memr_fwd h.2 s n hi hn
    simp only [MemoryReader_Slice1, h2, hf, MemR.slice1]
    cases MemR.slice2 s s.pos n <;> cases MemR.fwd s n <;> simp only [okOr_ok, okOr_error, bind_none', bind_some']

/-! `SliceReader<W>`: instantiated with the recording stream `probeW`, the model `Slice.read W s k` etc. shows its own guard
(`error` or not) and the value it hands to the wrapped stream (`arg`), which is what the generated definitions compute from
`startingOffset`, `sliceLength`, `wrappedStream.Position()`. -/

@[reducible] def probeSlice (wl start len wp : Nat) : Slice Probe := { w := { length := wl, position := wp }, start := start, len := len }

/-- the invariant of a slice (`sliceGood` of the refinement proof, for the recording stream) -/
def ProbeGood (wl start len wp : Nat) : Prop := start ≤ wp ∧ wp ≤ start + len ∧ start + len ≤ wl ∧ wl < W64

theorem C12_gen_slice_read : SliceReader_ReadImplementation_translated = true →
    ∀ (wl start len wp k : Nat), ProbeGood wl start len wp → k < W64 →
      SliceReader_ReadImplementation start len wp k =
        okOr (fun r : Bytes × Slice Probe => r.2.w.arg) (Slice.read probeW (probeSlice wl start len wp) k) := by
  gen_bridge =>
    intro wl start len wp k hg h4
    obtain ⟨g1, g2, g3, g4⟩ := hg
    simp only [Slice.read]
    split <;> simp only [Slice.position, probeW, probeSlice, okOr_ok, okOr_error] at * <;>
    simp only [SliceReader_ReadImplementation, u64, W64] at * <;> gen_close

theorem C12_gen_slice_readPartial : SliceReader_ReadPartial_translated = true →
    ∀ (wl start len wp k : Nat), ProbeGood wl start len wp → k < W64 →
      SliceReader_ReadPartial start len wp k = some (Slice.readPartial probeW (probeSlice wl start len wp) k).2.w.arg := by
  gen_bridge =>
    intro wl start len wp k hg h4
    obtain ⟨g1, g2, g3, g4⟩ := hg
    simp only [Slice.readPartial]
    split <;> simp only [Slice.position, probeW, probeSlice, SliceReader_ReadPartial, u64, W64] at * <;> gen_close

theorem C12_gen_slice_seek : SliceReader_Seek_translated = true →
    ∀ (wl start len wp p : Nat), ProbeGood wl start len wp → p < W64 →
      SliceReader_Seek start len wp p =
        okOr (fun r : Slice Probe => r.w.arg) (Slice.seek probeW (probeSlice wl start len wp) p) := by
  gen_bridge =>
    intro wl start len wp p hg h4
    obtain ⟨g1, g2, g3, g4⟩ := hg
    simp only [Slice.seek]
    split <;> simp only [Slice.position, probeW, probeSlice, okOr_ok, okOr_error] at * <;>
    simp only [SliceReader_Seek, u64, W64] at * <;> gen_close

theorem C12_gen_slice_fwd : SliceReader_SeekForward_translated = true →
    ∀ (wl start len wp d : Nat), ProbeGood wl start len wp → d < W64 →
      SliceReader_SeekForward start len wp d =
        okOr (fun r : Slice Probe => r.w.arg) (Slice.fwd probeW (probeSlice wl start len wp) d) := by
  gen_bridge =>
    intro wl start len wp d hg h4
    obtain ⟨g1, g2, g3, g4⟩ := hg
    simp only [Slice.fwd]
    split <;> simp only [Slice.position, probeW, probeSlice, okOr_ok, okOr_error] at * <;>
    simp only [SliceReader_SeekForward, u64, W64] at * <;> gen_close

theorem C12_gen_slice_back : SliceReader_SeekBackward_translated = true →
    ∀ (wl start len wp d : Nat), ProbeGood wl start len wp → d < W64 →
      SliceReader_SeekBackward start len wp d =
        okOr (fun r : Slice Probe => r.w.arg) (Slice.back probeW (probeSlice wl start len wp) d) := by
  gen_bridge =>
    intro wl start len wp d hg h4
    obtain ⟨g1, g2, g3, g4⟩ := hg
    simp only [Slice.back]
    split <;> simp only [Slice.position, probeW, probeSlice, okOr_ok, okOr_error] at * <;>
    simp only [SliceReader_SeekBackward, u64, W64] at * <;> gen_close

theorem C12_gen_slice_position : SliceReader_Position_translated = true →
    ∀ (wl start len wp : Nat), ProbeGood wl start len wp →
      SliceReader_Position start len wp = some ((Slice.position probeW (probeSlice wl start len wp) : Nat) : Int) := by
  gen_bridge =>
    intro wl start len wp hg
    obtain ⟨g1, g2, g3, g4⟩ := hg
    simp only [Slice.position, probeW, probeSlice, SliceReader_Position, u64, W64] at *
    gen_close

end Op2.Props.C12
