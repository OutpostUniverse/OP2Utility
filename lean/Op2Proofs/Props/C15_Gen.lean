import Op2Proofs.Gen.Bits
import Op2Proofs.Huff.Arr
/-!
# C15 — bridging lemmas: the accessors and the constructor's size arithmetic of `AdaptiveHuffmanTree`, as translated from the current
C++ on this run (`Op2Model/Gen/Bits.lean`), are the bounds-checked queries `TA.child / isLeaf / nodeData` and the table sizes of
`TA.init` (`Op2Model/HuffArr.lean`).  `NodeType` is `unsigned short`: the lemmas hold for trees whose node count and link values fit
16 bits (`C15`: all indices are `< 3T - 1 ≤ 941`).
-/
set_option linter.unusedSimpArgs false
namespace Op2.Props.C15
open Op2 Op2.Huff Op2.GenBridge Op2.GenBits
open Op2.Gen.Bits

/-- `linkOrData` as the generated definitions see it -/
def linkOf (a : TA) : Int → Int := fun i => (a.link.getD i.toNat 0 : Int)

theorem C15_gen_verify_index : AdaptiveHuffmanTree_VerifyNodeIndexInBounds_translated = true →
    ∀ (a : TA) (node : Nat), a.n < 65536 → node < 65536 →
      AdaptiveHuffmanTree_VerifyNodeIndexInBounds a.n node = (if node ≥ a.n then none else some ()) := by
  gen_bridge =>
    intro a node hn hnode
    simp only [AdaptiveHuffmanTree_VerifyNodeIndexInBounds]
    bits_norm
    gen_close

/-- the first guard of `UpdateCodeCount` (`TA.updateChecked`: `code ≥ T` is refused) -/
theorem C15_gen_verify_data : AdaptiveHuffmanTree_VerifyNodeDataInBounds_translated = true →
    ∀ (a : TA) (code : Nat), a.T < 65536 → code < 65536 →
      AdaptiveHuffmanTree_VerifyNodeDataInBounds a.T code = (if code ≥ a.T then none else some ()) := by
  gen_bridge =>
    intro a code hn hc
    simp only [AdaptiveHuffmanTree_VerifyNodeDataInBounds]
    bits_norm
    gen_close

theorem C15_gen_child : (AdaptiveHuffmanTree_GetChildNode_translated && AdaptiveHuffmanTree_VerifyNodeIndexInBounds_translated) = true →
    ∀ (a : TA) (node bit : Nat), a.n < 65536 → node < 65536 → bit ≤ 1 → a.link.getD node 0 + bit < 65536 →
      AdaptiveHuffmanTree_GetChildNode a.n (linkOf a) node bit = okOr (fun c : Nat => (c : Int)) (a.child node bit) := by
  gen_bridge =>
    intro a node bit hn hnode hbit hl
    have hidx : ((node : Int) % 18446744073709551616).toNat = node := by omega
    simp only [AdaptiveHuffmanTree_GetChildNode, AdaptiveHuffmanTree_VerifyNodeIndexInBounds, TA.child, linkOf, hidx]
    generalize a.link.getD node 0 = L at *
    bits_norm
    gen_close

theorem C15_gen_isLeaf : (AdaptiveHuffmanTree_IsLeaf_translated && AdaptiveHuffmanTree_VerifyNodeIndexInBounds_translated) = true →
    ∀ (a : TA) (node : Nat), a.n < 65536 → node < 65536 → a.link.getD node 0 < 65536 →
      AdaptiveHuffmanTree_IsLeaf a.n (linkOf a) node =
        okOr (fun b : Bool => if b then (1 : Int) else 0) (a.isLeaf node) := by
  gen_bridge =>
    intro a node hn hnode hl
    have hidx : ((node : Int) % 18446744073709551616).toNat = node := by omega
    simp only [AdaptiveHuffmanTree_IsLeaf, AdaptiveHuffmanTree_VerifyNodeIndexInBounds, TA.isLeaf, linkOf, hidx]
    generalize a.link.getD node 0 = L at *
    bits_norm
    -- `gen_close` with a second split: the view `if b then 1 else 0` of the Bool appears only after `okOr_ok`
    (repeat' split) <;>
      simp only [okOr_ok, okOr_error, bind_none', bind_some', Option.bind_none, Option.bind_some, reduceCtorEq, Option.some.injEq,
        decide_eq_true_eq, ge_iff_le] at * <;>
      (repeat' split) <;> first | omega | trivial | rfl

/-- `GetNodeData` on a leaf (`linkOrData[node] ≥ nodeCount`, which `GetNextCode` has established through `IsLeaf`) -/
theorem C15_gen_nodeData : (AdaptiveHuffmanTree_GetNodeData_translated && AdaptiveHuffmanTree_VerifyNodeIndexInBounds_translated) = true →
    ∀ (a : TA) (node : Nat), a.n < 65536 → node < 65536 → a.link.getD node 0 < 65536 → a.n ≤ a.link.getD node 0 →
      AdaptiveHuffmanTree_GetNodeData a.n (linkOf a) node = okOr (fun c : Nat => (c : Int)) (a.nodeData node) := by
  gen_bridge =>
    intro a node hn hnode hl hleaf
    have hidx : ((node : Int) % 18446744073709551616).toNat = node := by omega
    simp only [AdaptiveHuffmanTree_GetNodeData, AdaptiveHuffmanTree_VerifyNodeIndexInBounds, TA.nodeData, linkOf, hidx]
    generalize a.link.getD node 0 = L at *
    bits_norm
    gen_close

/-- the constructor's arithmetic: `nodeCount = 2T - 1`, `rootNodeIndex = 2T - 2`, tables of `2T - 1`, `2T - 1`, `3T - 1` entries —
    the `n`, `root` and table sizes (`TA.Sized`) of the model's initial tree; `GetRootNodeIndex` returns the stored root -/
theorem C15_gen_create : (AdaptiveHuffmanTree_Create_translated && AdaptiveHuffmanTree_GetRootNodeIndex_translated) = true →
    ∀ (T : Nat), 1 ≤ T → 3 * T - 1 < 65536 →
      AdaptiveHuffmanTree_Create T =
        some ((T : Int), ((TA.init T).n : Int), ((TA.init T).root : Int), ((TA.init T).link.size : Int),
              ((TA.init T).cnt.size : Int), ((TA.init T).par.size : Int)) ∧
      AdaptiveHuffmanTree_GetRootNodeIndex (TA.init T).root = some ((TA.init T).root : Int) ∧ (TA.init T).Sized := by
  gen_bridge =>
    intro T h1 h2
    have hS : (TA.init T).Sized := TA.ofTF_sized _
    have hn : (TA.init T).n = 2 * T - 1 := rfl
    have hr : (TA.init T).root = 2 * T - 1 - 1 := rfl
    have hT : (TA.init T).T = T := rfl
    refine ⟨?_, rfl, hS⟩
    rw [hS.1, hS.2.1, hS.2.2, hn, hr, hT]
    simp only [AdaptiveHuffmanTree_Create]
    bits_norm
    gen_close

end Op2.Props.C15
