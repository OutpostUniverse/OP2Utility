import Op2Proofs.Clm.Roundtrip
import Op2Proofs.Clm.Grammar
import Op2Proofs.Clm.Names
import Op2Proofs.Clm.Dirs
import Op2Model.Gen.Layout
import Op2Model.Gen.Constants
/-!
# C03 — CLM pack → reopen → extract preserves every track's audio data and format
-/
namespace Op2.Props.C03
open Op2 Op2.Clm Op2.Wave

/-! ## bridging lemmas: facts regenerated from the current source are the model's -/

theorem C03_gen_version : Gen.Constants.clm_fileVersion_scraped = true → Gen.Constants.clm_fileVersion = Clm.version.map (·.toNat) := by decide
theorem C03_gen_unknown : Gen.Constants.clm_unknown_scraped = true → Gen.Constants.clm_unknown = Clm.unknown.map (·.toNat) := by decide
theorem C03_gen_header_layout :
    Gen.Layout.size_ClmHeader = Clm.headerSize ∧ Gen.Layout.off_ClmHeader_waveFormat = 32 ∧
    Gen.Layout.off_ClmHeader_unknown = 50 ∧ Gen.Layout.off_ClmHeader_packedFilesCount = 56 ∧
    Gen.Layout.size_WaveFormatEx = Wave.formatSize := by decide
theorem C03_gen_index_layout :
    Gen.Layout.size_ClmIndexEntry = Clm.entrySize ∧ Gen.Layout.off_ClmIndexEntry_dataOffset = 8 ∧
    Gen.Layout.off_ClmIndexEntry_dataLength = 12 := by decide
theorem C03_gen_wave_layout :
    Gen.Layout.size_RiffHeader = Wave.riffHeaderSize ∧ Gen.Layout.size_ChunkHeader = Wave.chunkHeaderSize ∧
    Gen.Layout.size_FormatChunk = 26 ∧ Gen.Layout.size_WaveHeader = 46 := by decide
/-- `WaveFormatEx{tag, channels, rate, avgBytes, blockAlign, bits, cbSize}` as its 18 bytes -/
def formatBytes : List Nat → Bytes
  | [a, b, c, d, e, f, g] => encU16 a ++ encU16 b ++ encU32 c ++ encU32 d ++ encU16 e ++ encU16 f ++ encU16 g
  | _ => []
/-- `PrepareWaveFormat`'s default (PCM, mono, 22 050 Hz, 44 100 B/s, block 2, 16 bit, cbSize 0) as laid out in 18 bytes -/
theorem C03_gen_default_format : Gen.Constants.clm_defaultFormat_scraped = true → formatBytes Gen.Constants.clm_defaultFormat = Clm.defaultFmt := by decide
/-- the frozen description's header constants are the ones the library writes -/
theorem C03_spec_constants : Spec.versionText = Clm.version ∧ Spec.unknownBytes = Clm.unknown := spec_constants

/-- header, member count, index offsets and lengths agree with the independent description, offsets are the true running
    sums starting right after the index, and the file ends with the last member's data -/
theorem C03_layout (files : List (Bytes × Content)) (a : Archive) (h : create files = .ok a) : Spec.WF a.toBytes := by
  obtain ⟨infos, hc⟩ := (create_eq_ok files a).mp h
  exact hc.wf

/-- every archive `create` returns is accepted by the reader; it lists one member per file, in the sorted order; each
    member's size is the `data` chunk length, its stream is exactly the `dataLen` bytes of the source at the data
    position, and its extraction is the canonical header followed by those bytes -/
theorem C03_reopen (files : List (Bytes × Content)) (a : Archive) (h : create files = .ok a)
    (hcap : files.length * 16 ≤ allocCap) :
    ∃ v infos, Clm.open a.toBytes = .ok v ∧ v.count = files.length ∧
      intakeAll ((sorted files).map (·.2)) = .ok infos ∧ v.fmt = fmtOf infos ∧
      ∀ (i : Nat) (p : Bytes) (c : Content) (info : Info), (sorted files)[i]? = some (p, c) → infos[i]? = some info →
        v.name i = .ok ((padName (nameOf p)).takeWhile (· ≠ 0)) ∧
        v.size i = .ok info.dataLen ∧
        v.stream a.toBytes i = .ok ((c.toBytes.drop info.dataPos).take info.dataLen) ∧
        v.extractWav a.toBytes i = .ok (wavHeader (fmtOf infos) info.dataLen ++ (c.toBytes.drop info.dataPos).take info.dataLen) := by
  obtain ⟨infos, hc⟩ := (create_eq_ok files a).mp h
  obtain ⟨v, hopen, hfmt, hcount, hmem⟩ := hc.reopen hcap
  refine ⟨v, infos, hopen, hcount, hc.intake, hfmt, ?_⟩
  intro i p c info hs hi
  obtain ⟨off, he, hext⟩ := hmem i ((p, c), info) (List.getElem?_zip_eq_some.mpr ⟨hs, hi⟩)
  exact ⟨View.name_of he, View.size_of he, (View.stream_of he _).trans hext,
    by rw [View.extractWav_of he, hext, hfmt]; rfl⟩

/-- the sources: `(path, description)`; the files handed to `CreateArchive` are their encodings -/
def filesOf (srcs : List (Bytes × Desc)) : List (Bytes × Content) := srcs.map (fun s => (s.1, ⟨s.2.enc, 0⟩))
def sortedSrcs (srcs : List (Bytes × Desc)) : List (Bytes × Desc) := Str.sortCI (fun s : Bytes × Desc => Path.getFilename s.1) srcs

theorem sorted_filesOf (srcs : List (Bytes × Desc)) :
    sorted (filesOf srcs) = (sortedSrcs srcs).map fun s => (s.1, ⟨s.2.enc, 0⟩) :=
  (Str.sortCI_map (fun s : Bytes × Desc => (s.1, (⟨s.2.enc, 0⟩ : Content))) _ srcs).symm

theorem mem_sortedSrcs {srcs : List (Bytes × Desc)} {s : Bytes × Desc} : s ∈ sortedSrcs srcs ↔ s ∈ srcs :=
  Str.mem_sortCI

theorem members_filesOf (srcs : List (Bytes × Desc)) :
    membersOf (filesOf srcs) ((sortedSrcs srcs).map fun s => infoOf s.2)
      = (sortedSrcs srcs).map fun s => ((s.1, ⟨s.2.enc, 0⟩), infoOf s.2) := by
  unfold membersOf
  rw [sorted_filesOf, List.zip_map']

theorem intake_filesOf {srcs : List (Bytes × Desc)} (hvalid : ∀ s ∈ srcs, s.2.Valid) {s : Bytes × Desc} (hs : s ∈ sortedSrcs srcs) :
    intake ⟨s.2.enc, 0⟩ = .ok (infoOf s.2) ∧ s.2.dataPos + s.2.data.length ≤ (⟨s.2.enc, 0⟩ : Content).len ∧
    ((⟨s.2.enc, 0⟩ : Content).toBytes.drop s.2.dataPos).take s.2.data.length = s.2.data :=
  intake_desc ⟨s.2.enc, 0⟩ s.2 (by simp [Content.toBytes, zeros]) (hvalid s (mem_sortedSrcs.mp hs))

theorem created_of_valid (srcs : List (Bytes × Desc)) (fmt16 : Bytes)
    (hvalid : ∀ s ∈ srcs, s.2.Valid) (hfmt : ∀ s ∈ srcs, s.2.fmt16 = fmt16)
    (hname : ∀ s ∈ srcs, (nameOf s.1).length ≤ nameMax ∧ ∀ x ∈ nameOf s.1, x ≠ 0)
    (hdistinct : Str.NoDupCI (fun s : Bytes × Desc => nameOf s.1) srcs)
    (hfits : headerSize + srcs.length * entrySize + (srcs.map (·.2.data.length)).sum ≤ offsetLimit) :
    ∃ a, Created (filesOf srcs) a ((sortedSrcs srcs).map fun s => infoOf s.2) := by
  have hperm : (sortedSrcs srcs).Perm srcs := Str.sortCI_perm _ srcs
  have hnames : namesOf (filesOf srcs) = (sortedSrcs srcs).map (fun s => nameOf s.1) := by
    unfold namesOf; rw [sorted_filesOf, List.map_map]; rfl
  refine ⟨⟨_, _⟩, ?_, ?_, ?_, ?_, ?_, ?_, rfl, rfl⟩
  · rw [intakeAll_eq_ok, sorted_filesOf]
    -- (beta-reduce the compositions first: `exact` would unfold `intake` to match them)
    simp only [List.map_map, Function.comp_def]
    exact List.map_congr_left fun s hs => (intake_filesOf hvalid hs).1
  · refine (allSameFmt_iff _).mpr fun i hi j hj => ?_
    obtain ⟨s, hs, rfl⟩ := List.mem_map.mp hi
    obtain ⟨t, ht, rfl⟩ := List.mem_map.mp hj
    exact congrArg (· ++ [0, 0]) ((hfmt s (mem_sortedSrcs.mp hs)).trans (hfmt t (mem_sortedSrcs.mp ht)).symm)
  · intro n hn
    rw [hnames] at hn
    obtain ⟨s, hs, rfl⟩ := List.mem_map.mp hn
    exact (hname s (mem_sortedSrcs.mp hs)).1
  · rw [hnames, Bool.eq_false_iff]
    intro hd
    apply Str.hasAdjacentDup_sound _ hd
    unfold Str.NoDupCI
    rw [List.pairwise_map]
    exact hdistinct.perm _ hperm.symm
  · have hsum : ((itemsOf (filesOf srcs) ((sortedSrcs srcs).map fun s => infoOf s.2)).map (·.2)).sum
        = (srcs.map (·.2.data.length)).sum := by
      unfold itemsOf
      rw [members_filesOf, List.map_map, List.map_map]
      exact (hperm.map _).sum_nat
    rw [hsum, show (filesOf srcs).length = srcs.length from List.length_map _]
    unfold headerSize entrySize at hfits
    omega
  · intro m hm
    rw [members_filesOf] at hm
    obtain ⟨s, hs, rfl⟩ := List.mem_map.mp hm
    exact (intake_filesOf hvalid hs).2.1

theorem fmtOf_filesOf {srcs : List (Bytes × Desc)} {fmt16 : Bytes} (hfmt : ∀ s ∈ srcs, s.2.fmt16 = fmt16)
    {s : Bytes × Desc} (hs : s ∈ srcs) : fmtOf ((sortedSrcs srcs).map fun s => infoOf s.2) = fmt16 ++ [0, 0] :=
  fmtOf_map (fun s hs => congrArg (· ++ [0, 0]) (hfmt s (mem_sortedSrcs.mp hs))) (mem_sortedSrcs.mpr hs)

/-- **C03 round trip.**  For every finite list of sources that are RIFF/WAVE files by the grammar (any other chunks before
    and between `fmt ` and `data`, anything after the data), share the 16 format bytes, have names (file name without
    extension) of at most 8 bytes without NUL that are pairwise distinct ignoring case, and whose index and data fit
    32 bits: creation succeeds; the reader accepts the archive; it lists exactly the sources in sorted order, by name;
    each size is that file's data-chunk length; each stream is exactly that chunk's bytes; each extraction is a
    self-consistent WAV carrying the common format and those bytes. -/
theorem C03_roundtrip (srcs : List (Bytes × Desc)) (fmt16 : Bytes)
    (hvalid : ∀ s ∈ srcs, s.2.Valid) (hfmt : ∀ s ∈ srcs, s.2.fmt16 = fmt16)
    (hname : ∀ s ∈ srcs, (nameOf s.1).length ≤ nameMax ∧ ∀ x ∈ nameOf s.1, x ≠ 0)
    (hdistinct : Str.NoDupCI (fun s : Bytes × Desc => nameOf s.1) srcs)
    (hfits : headerSize + srcs.length * entrySize + (srcs.map (·.2.data.length)).sum ≤ offsetLimit)
    (hcap : srcs.length * 16 ≤ allocCap) :
    ∃ a v, create (filesOf srcs) = .ok a ∧ Clm.open a.toBytes = .ok v ∧ v.count = srcs.length ∧
      (srcs ≠ [] → v.fmt = fmt16 ++ [0, 0]) ∧
      ∀ (i : Nat) (p : Bytes) (d : Desc), (sortedSrcs srcs)[i]? = some (p, d) →
        v.name i = .ok (nameOf p) ∧
        v.size i = .ok d.data.length ∧
        v.stream a.toBytes i = .ok d.data ∧
        ∃ w, v.extractWav a.toBytes i = .ok w ∧ Spec.SelfConsistentWav w fmt16 d.data := by
  obtain ⟨a, hc⟩ := created_of_valid srcs fmt16 hvalid hfmt hname hdistinct hfits
  have hflen : (filesOf srcs).length = srcs.length := List.length_map _
  obtain ⟨v, hopen, hvfmt, hcount, hmem⟩ := hc.reopen (by rw [hflen]; exact hcap)
  have hvf : ∀ s ∈ srcs, v.fmt = fmt16 ++ [0, 0] := fun s hs => hvfmt.trans (fmtOf_filesOf hfmt hs)
  refine ⟨a, v, (create_eq_ok _ a).mpr ⟨_, hc⟩, hopen, hcount.trans hflen,
    fun hne => (List.exists_mem_of_ne_nil _ hne).elim hvf, ?_⟩
  intro i p d hs
  have hmemS : (p, d) ∈ srcs := mem_sortedSrcs.mp (List.mem_of_getElem? hs)
  have hv := hvalid _ hmemS
  obtain ⟨_, hinside, hslice⟩ := intake_filesOf hvalid (List.mem_of_getElem? hs)
  obtain ⟨off, he, hext⟩ := hmem i ((p, ⟨d.enc, 0⟩), infoOf d) (by rw [members_filesOf, List.getElem?_map, hs]; rfl)
  replace hext : extent a.toBytes off d.data.length = .ok d.data := hext.trans (congrArg _ hslice)
  refine ⟨?_, View.size_of he, (View.stream_of he _).trans hext, _,
    (View.extractWav_of he _).trans (congrArg (Except.map _) hext), ?_⟩
  · rw [View.name_of he]; exact congrArg _ (entryName_padName _ (hname _ hmemS).2 (hname _ hmemS).1 _ _)
  · have h16 : fmt16.length = 16 := by rw [← hfmt _ hmemS]; exact hv.1
    rw [hvf _ hmemS]
    have := wavHeader_selfConsistent (fmt16 ++ [0, 0]) d.data (by simp [h16]) (by
      -- the data is part of a file shorter than 2^32 that carries at least 44 bytes of headers in front of it
      have := d.fmtChunk_length hv.1
      have hsmall : d.enc.length < W32 := hv.2.2.2
      simp only [Content.len, Nat.add_zero, Desc.dataPos] at hinside
      omega)
    rwa [List.take_left' h16] at this

/-- under the hypotheses of `C03_roundtrip` (and at least one source) the bytes `create` writes are exactly what the frozen
    reference encoder `Clm.Spec.encode` writes for the common format and the `(name, audio data)` pairs in sorted order —
    nothing of any chunk before, between or after `fmt ` / `data` reaches the archive -/
theorem C03_bytes_are_reference (srcs : List (Bytes × Desc)) (fmt16 : Bytes)
    (hvalid : ∀ s ∈ srcs, s.2.Valid) (hfmt : ∀ s ∈ srcs, s.2.fmt16 = fmt16)
    (hname : ∀ s ∈ srcs, (nameOf s.1).length ≤ nameMax ∧ ∀ x ∈ nameOf s.1, x ≠ 0)
    (hdistinct : Str.NoDupCI (fun s : Bytes × Desc => nameOf s.1) srcs)
    (hfits : headerSize + srcs.length * entrySize + (srcs.map (·.2.data.length)).sum ≤ offsetLimit)
    (hcap : srcs.length * 16 ≤ allocCap) (hne : srcs ≠ []) :
    ∃ a, create (filesOf srcs) = .ok a ∧
      a.toBytes = Spec.encode (fmt16 ++ [0, 0]) ((sortedSrcs srcs).map (fun s => (nameOf s.1, s.2.data))) := by
  obtain ⟨a, hc⟩ := created_of_valid srcs fmt16 hvalid hfmt hname hdistinct hfits
  refine ⟨a, (create_eq_ok _ a).mpr ⟨_, hc⟩, ?_⟩
  obtain ⟨s0, hs0⟩ := List.exists_mem_of_ne_nil _ hne
  have hitems : itemsOf (filesOf srcs) ((sortedSrcs srcs).map fun s => infoOf s.2)
      = ((sortedSrcs srcs).map fun s => (nameOf s.1, s.2.data)).map fun m => (m.1, m.2.length) := by
    unfold itemsOf
    rw [members_filesOf, List.map_map, List.map_map]; rfl
  have hdatas : a.datas.flatMap Content.toBytes = ((sortedSrcs srcs).map fun s => (nameOf s.1, s.2.data)).flatMap (·.2) := by
    rw [hc.datas, members_filesOf, List.map_map, List.flatMap_map, List.flatMap_map, List.flatMap_def, List.flatMap_def]
    refine congrArg List.flatten (List.map_congr_left fun s hs => ?_)
    obtain ⟨_, hin, hsl⟩ := intake_filesOf hvalid hs
    exact (Content.slice_toBytes _ _ _ hin).trans hsl
  rw [hc.toBytes, ← hc.items_len, hitems, hdatas, List.length_map, fmtOf_filesOf hfmt hs0]
  apply layout_eq_encode
  intro m hm
  obtain ⟨s, hs, rfl⟩ := List.mem_map.mp hm
  exact ⟨(hname s (mem_sortedSrcs.mp hs)).2, (hname s (mem_sortedSrcs.mp hs)).1⟩

/-- every ordering of a set whose file names are pairwise distinct ignoring case gives the same outcome, byte for byte -/
theorem C03_order_independent (files files' : List (Bytes × Content)) (hperm : files.Perm files')
    (hdistinct : Str.NoDupCI (fun f : Bytes × Content => Path.getFilename f.1) files) : create files = create files' := by
  unfold create
  rw [Str.sortCI_perm_invariant _ hperm hdistinct]

/-- `std::sort` orders the *file names* (with extension).  When stripping the extension does not change how two of the
    given paths compare (true for the property's alphabet: stems of letters, digits, underscores — all above '.' —
    see `C03_order_compatible_example`), the listed names are strictly increasing in the case-insensitive order. -/
theorem C03_names_sorted (srcs : List (Bytes × Desc))
    (hcompat : ∀ s ∈ srcs, ∀ t ∈ srcs, Str.ltCI (Path.getFilename t.1) (Path.getFilename s.1) = false →
      Str.ltCI (nameOf t.1) (nameOf s.1) = false)
    (hdistinct : Str.NoDupCI (fun s : Bytes × Desc => nameOf s.1) srcs) :
    Str.SortedS (fun s : Bytes × Desc => nameOf s.1) (sortedSrcs srcs) :=
  (Str.sortCI_sortedW_of_compat _ _ srcs hcompat).strict _ (hdistinct.perm _ (Str.sortCI_perm _ srcs).symm)

/-- a file that does not start with `RIFF`, or does not carry `WAVE` at offset 8 (or is shorter than 12 bytes), fails intake -/
theorem C03_not_wave_fails_intake (c : Content)
    (h : c.len < 12 ∨ c.toBytes.take 4 ≠ tagRIFF ∨ (c.toBytes.drop 8).take 4 ≠ tagWAVE) : ∀ i, intake c ≠ .ok i := by
  intro i hi
  have hok := (intake_eq_ok.mp hi).1
  unfold headerOk at hok
  simp only [Bool.and_eq_true, decide_eq_true_eq, beq_iff_eq] at hok
  obtain ⟨⟨⟨h12, hr⟩, hw⟩, _⟩ := hok
  rw [Content.read_eq] at hr hw
  unfold riffHeaderSize at h12 hr hw
  rcases h with h | h | h
  · omega
  · apply h
    rw [← hr, List.drop_zero, List.take_take]; rfl
  · apply h
    rw [← hw, List.drop_zero, List.drop_take]

/-- **refusals**: a set is refused with an error (never an archive, never a hang) when one of its files is not RIFF/WAVE,
    when two of its files carry different formats, when a name is longer than 8 characters, or when two names that come
    out next to each other are equal ignoring case -/
theorem C03_refusals (files : List (Bytes × Content)) (hlen : ∀ f ∈ files, f.2.len < 2 ^ 63) :
    ((∃ f ∈ files, f.2.len < 12 ∨ f.2.toBytes.take 4 ≠ tagRIFF ∨ (f.2.toBytes.drop 8).take 4 ≠ tagWAVE) → create files = .err) ∧
    ((∃ f ∈ files, ∃ g ∈ files, ∃ i j, intake f.2 = .ok i ∧ intake g.2 = .ok j ∧ i.fmt ≠ j.fmt) → create files = .err) ∧
    ((∃ f ∈ files, (nameOf f.1).length > nameMax) → create files = .err) ∧
    (Str.hasAdjacentDup (namesOf files) = true → create files = .err) := by
  refine ⟨?_, ?_, ?_, ?_⟩ <;> intro h <;> apply create_err_of files hlen <;> intro a infos hc
  · obtain ⟨f, hf, hbad⟩ := h
    obtain ⟨i, _, hi⟩ := hc.intake_each f hf
    exact C03_not_wave_fails_intake f.2 hbad i hi
  · obtain ⟨f, hf, g, hg, i, j, hi, hj, hne⟩ := h
    obtain ⟨i', hi'm, hi'⟩ := hc.intake_each f hf
    obtain ⟨j', hj'm, hj'⟩ := hc.intake_each g hg
    obtain rfl := Res.ok.inj (hi.symm.trans hi')
    obtain rfl := Res.ok.inj (hj.symm.trans hj')
    exact hne ((allSameFmt_iff infos).mp hc.sameFmt i hi'm j hj'm)
  · obtain ⟨f, hf, hl⟩ := h
    have := hc.short (nameOf f.1) (List.mem_map.mpr ⟨f, Str.mem_sortCI.mpr hf, rfl⟩)
    omega
  · rw [hc.noDup] at h; cases h

/-- duplicates are always next to each other — hence always refused — when the sort by file name also orders the names -/
theorem C03_duplicates_refused (files : List (Bytes × Content)) (hlen : ∀ f ∈ files, f.2.len < 2 ^ 63)
    (hcompat : ∀ s ∈ files, ∀ t ∈ files, Str.ltCI (Path.getFilename t.1) (Path.getFilename s.1) = false →
      Str.ltCI (nameOf t.1) (nameOf s.1) = false)
    (hdup : ¬ Str.NoDupCI (fun f : Bytes × Content => nameOf f.1) files) : create files = .err := by
  apply (C03_refusals files hlen).2.2.2
  apply Str.hasAdjacentDup_complete _ (List.pairwise_map.mpr (Str.sortCI_sortedW_of_compat _ _ files hcompat))
  intro hn
  exact hdup (Str.NoDupCI.perm _ (List.pairwise_map.mp hn) (Str.sortCI_perm _ files))

/-! ## non-vacuity: a concrete set meets every hypothesis, and the model's bytes are the reference encoder's -/

def exFmt : Bytes := [1, 0, 1, 0, 0x22, 0x56, 0, 0, 0x44, 0xac, 0, 0, 2, 0, 16, 0]
/-- `b.wav` (minimal), `A_1.WAV` (a LIST chunk before `fmt `, an 18-byte `fmt `, a `fact` chunk between, a LIST chunk
    after the data), `a.wav` (empty data) — given out of order -/
def exSrcs : List (Bytes × Desc) :=
  [ ([98, 46, 119, 97, 118], ⟨[], exFmt, [], [], [66, 66, 66, 66], []⟩),
    ([65, 95, 49, 46, 87, 65, 86],
      ⟨[⟨[76, 73, 83, 84], [1, 2]⟩], exFmt, [0, 0], [⟨[102, 97, 99, 116], [4, 0, 0, 0]⟩], [65, 65, 65, 65, 65],
       [76, 73, 83, 84, 2, 0, 0, 0, 9, 9]⟩),
    ([97, 46, 119, 97, 118], ⟨[], exFmt, [], [], [], []⟩) ]

instance (d : Desc) : Decidable d.Valid := by unfold Desc.Valid; exact inferInstance

example : (∀ s ∈ exSrcs, s.2.Valid) ∧ (∀ s ∈ exSrcs, s.2.fmt16 = exFmt) ∧
    (∀ s ∈ exSrcs, (nameOf s.1).length ≤ nameMax ∧ ∀ x ∈ nameOf s.1, x ≠ 0) ∧
    headerSize + exSrcs.length * entrySize + (exSrcs.map (·.2.data.length)).sum ≤ offsetLimit ∧
    exSrcs.length * 16 ≤ allocCap := by decide
example : Str.NoDupCI (fun s : Bytes × Desc => nameOf s.1) exSrcs := by unfold Str.NoDupCI; decide
/-- the order-compatibility hypothesis of `C03_names_sorted` holds on this set … -/
theorem C03_order_compatible_example : ∀ s ∈ exSrcs, ∀ t ∈ exSrcs,
    Str.ltCI (Path.getFilename t.1) (Path.getFilename s.1) = false → Str.ltCI (nameOf t.1) (nameOf s.1) = false := by decide
/-- … and the names come out as `a`, `A_1`, `b` -/
example : (sortedSrcs exSrcs).map (fun s => nameOf s.1) = [[97], [65, 95, 49], [98]] := by decide

def exWav : Desc := ⟨[], exFmt, [], [], [66, 66, 66, 66], []⟩
def bytesOf? : Res Archive → Option Bytes
  | .ok a => some a.toBytes
  | _ => none
/-- the model's archive for this set is, byte for byte, what the frozen reference encoder writes for
    `(a, ""), (A_1, "AAAAA"), (b, "BBBB")` — in particular nothing of the LIST chunk behind `A_1`'s data (D8) -/
example : bytesOf? (create (filesOf exSrcs)) =
    some (Spec.encode (exFmt ++ [0, 0]) [([97], []), ([65, 95, 49], [65, 65, 65, 65, 65]), ([98], [66, 66, 66, 66])]) := by decide
/-- refusal examples: a ninth name character; names equal ignoring case; a text file -/
example : bytesOf? (create [([97, 98, 99, 100, 101, 102, 103, 104, 105, 46, 119], ⟨exWav.enc, 0⟩)]) = none := by decide
example : bytesOf? (create [([97, 46, 119], ⟨exWav.enc, 0⟩), ([65, 46, 119, 97, 118], ⟨exWav.enc, 0⟩)]) = none := by decide
example : bytesOf? (create [([97, 46, 119], ⟨[104, 101, 108, 108, 111, 32, 119, 111, 114, 108, 100, 33, 33, 33, 33, 33, 33, 33, 33, 33, 33], 0⟩)]) = none := by decide

/-- a path as the property hands it over: bare `stem[.ext]`, or `dir/stem[.ext]` for **any** byte string `dir`
    (relative or rooted, any number of levels, doubled or trailing separators, empty — a leading "/" —, any bytes);
    the stem is over the property's alphabet (`StemOk`: non-empty, every byte above '.' and below 255, no '/'), the
    extension (if any) contains neither '.' nor '/' -/
def PathOk (p : Bytes) : Prop :=
  ∃ stem sfx, StemOk stem ∧ Suffix.Ok sfx ∧
    (p = stem ++ Suffix.bytes sfx ∨ ∃ dir : Bytes, p = dir ++ [Path.sep] ++ stem ++ Suffix.bytes sfx)

/-- the directory part does not reach the file name or the stored name: for every `dir` other than `"/"` itself,
    `dir/stem[.ext]` has file name `stem[.ext]` and name `stem`.  (Side condition: `"//stem.ext"` is a *root
    name* for `std::experimental::filesystem::path` — one component — so there `filename()` is the whole string and the
    name is `"//stem"`; see `C03_rootname_names`.) -/
theorem C03_dir_names (dir stem : Bytes) (sfx : Suffix) (hS : StemOk stem) (hx : sfx.Ok) (hd : dir ≠ [Path.sep]) :
    Path.getFilename (dir ++ [Path.sep] ++ stem ++ Suffix.bytes sfx) = stem ++ Suffix.bytes sfx ∧
    nameOf (dir ++ [Path.sep] ++ stem ++ Suffix.bytes sfx) = stem :=
  dir_names dir stem sfx hS hx hd

/-- the corner excluded above: `"//stem[.ext]"` keeps its two slashes in the file name and in the name -/
theorem C03_rootname_names (stem : Bytes) (sfx : Suffix) (hS : StemOk stem) (hx : sfx.Ok) :
    Path.getFilename ([Path.sep] ++ [Path.sep] ++ stem ++ Suffix.bytes sfx) = Path.sep :: Path.sep :: stem ++ Suffix.bytes sfx ∧
    nameOf ([Path.sep] ++ [Path.sep] ++ stem ++ Suffix.bytes sfx) = Path.sep :: Path.sep :: stem :=
  rootName_names stem sfx hS hx

/-- the general form of the path lemma: whatever precedes the last separator (except a lone "/"), the file name and the
    name of `B/n` are those of `n`, for every non-empty separator-free `n` -/
theorem C03_dir_transparent (B n : Bytes) (hn : n ≠ [] ∧ Path.sep ∉ n) (hB : B ≠ [Path.sep]) :
    Path.getFilename (B ++ Path.sep :: n) = Path.getFilename n ∧ nameOf (B ++ Path.sep :: n) = nameOf n :=
  ⟨Path.getFilename_dir B n hn hB, nameOf_dir B n hn hB⟩

/-- for paths that are bare or directory-qualified (each independently, any directories — `"/"` included, since '/'
    itself sorts above '.'), stripping the extension does not change how two paths compare -/
theorem C03_order_compatible_dirs (s t : Bytes) (hs : PathOk s) (ht : PathOk t)
    (h : Str.ltCI (Path.getFilename t) (Path.getFilename s) = false) :
    Str.ltCI (nameOf t) (nameOf s) = false := by
  have shape : ∀ p, PathOk p → NameShape p := by
    intro p hp
    obtain ⟨stem, sfx, hS, hx, e | ⟨dir, e⟩⟩ := hp
    · rw [e]; exact shape_bare stem sfx hS hx
    · rw [e]; exact shape_dir dir stem sfx hS hx
  exact compat_of_shape s t (shape s hs) (shape t ht) h

/-- **names come out in case-insensitive order**, whatever directories the sources are in: for sources given as
    `stem[.ext]` or `dir/stem[.ext]` (any mix, any directories) with stems over the property's alphabet and names
    pairwise distinct ignoring case, the archive order is strictly increasing by name — the directory part plays no
    role in the order -/
theorem C03_names_sorted_dirs (srcs : List (Bytes × Desc))
    (hpaths : ∀ s ∈ srcs, PathOk s.1)
    (hdistinct : Str.NoDupCI (fun s : Bytes × Desc => nameOf s.1) srcs) :
    Str.SortedS (fun s : Bytes × Desc => nameOf s.1) (sortedSrcs srcs) :=
  C03_names_sorted srcs (fun s hs t ht => C03_order_compatible_dirs s.1 t.1 (hpaths s hs) (hpaths t ht)) hdistinct

/-- for such paths, two names equal ignoring case are always refused, wherever they stand and whichever directories
    they come from (`a/Track.wav` and `b/TRACK.WAV` cannot both be packed) -/
theorem C03_duplicates_refused_dirs (files : List (Bytes × Content)) (hlen : ∀ f ∈ files, f.2.len < 2 ^ 63)
    (hpaths : ∀ f ∈ files, PathOk f.1)
    (hdup : ¬ Str.NoDupCI (fun f : Bytes × Content => nameOf f.1) files) : create files = .err :=
  C03_duplicates_refused files hlen (fun s hs t ht => C03_order_compatible_dirs s.1 t.1 (hpaths s hs) (hpaths t ht)) hdup

theorem pathOk_bare {p : Bytes} (h : ∃ stem sfx, p = stem ++ Suffix.bytes sfx ∧ StemOk stem ∧ sfx.Ok) : PathOk p :=
  let ⟨stem, sfx, e, hS, hx⟩ := h; ⟨stem, sfx, hS, hx, .inl e⟩

/-- for bare paths `stem` / `stem.ext` whose stem characters are above '.' (letters, digits, underscore) and contain no
    '/', stripping the extension does not change how two paths compare -/
theorem C03_order_compatible_bare (stemS stemT : Bytes) (sfxS sfxT : Suffix)
    (hS : StemOk stemS) (hT : StemOk stemT) (hxS : sfxS.Ok) (hxT : sfxT.Ok)
    (h : Str.ltCI (Path.getFilename (stemT ++ sfxT.bytes)) (Path.getFilename (stemS ++ sfxS.bytes)) = false) :
    Str.ltCI (nameOf (stemT ++ sfxT.bytes)) (nameOf (stemS ++ sfxS.bytes)) = false :=
  C03_order_compatible_dirs _ _ ⟨stemS, sfxS, hS, hxS, .inl rfl⟩ ⟨stemT, sfxT, hT, hxT, .inl rfl⟩ h

/-- **names come out in case-insensitive order**: for sources given as bare `stem[.ext]` paths with stems over the
    property's alphabet and pairwise distinct ignoring case, the archive order is strictly increasing by name -/
theorem C03_names_sorted_bare (srcs : List (Bytes × Desc))
    (hbare : ∀ s ∈ srcs, ∃ stem sfx, s.1 = stem ++ Suffix.bytes sfx ∧ StemOk stem ∧ sfx.Ok)
    (hdistinct : Str.NoDupCI (fun s : Bytes × Desc => nameOf s.1) srcs) :
    Str.SortedS (fun s : Bytes × Desc => nameOf s.1) (sortedSrcs srcs) :=
  C03_names_sorted_dirs srcs (fun s hs => pathOk_bare (hbare s hs)) hdistinct

/-- the example set consists of such paths -/
example : ∀ s ∈ exSrcs, ∃ stem sfx, s.1 = stem ++ Suffix.bytes sfx ∧ StemOk stem ∧ sfx.Ok := by
  intro s hs
  simp only [exSrcs, List.mem_cons, List.not_mem_nil, or_false] at hs
  rcases hs with rfl | rfl | rfl
  · exact ⟨[98], .withExt [119, 97, 118], rfl, by decide, by decide⟩
  · exact ⟨[65, 95, 49], .withExt [87, 65, 86], rfl, by decide, by decide⟩
  · exact ⟨[97], .withExt [119, 97, 118], rfl, by decide, by decide⟩

/-- for bare paths over the property's alphabet, two names equal ignoring case are always refused, wherever they stand -/
theorem C03_duplicates_refused_bare (files : List (Bytes × Content)) (hlen : ∀ f ∈ files, f.2.len < 2 ^ 63)
    (hbare : ∀ f ∈ files, ∃ stem sfx, f.1 = stem ++ Suffix.bytes sfx ∧ StemOk stem ∧ sfx.Ok)
    (hdup : ¬ Str.NoDupCI (fun f : Bytes × Content => nameOf f.1) files) : create files = .err :=
  C03_duplicates_refused_dirs files hlen (fun f hf => pathOk_bare (hbare f hf)) hdup

/-- non-vacuity: `base/mike.wav`, `base/Zulu.wav`, `extra/Alpha.wav`, `bravo.wav`, `/abs/deep//Echo.WAV` — bare and
    directory-qualified paths mixed, and the order of the directories (`/abs/deep/` < `base` < `extra`) contradicts
    the order of the names -/
def exDirSrcs : List (Bytes × Desc) :=
  [ ([98, 97, 115, 101, 47, 109, 105, 107, 101, 46, 119, 97, 118], exWav),
    ([98, 97, 115, 101, 47, 90, 117, 108, 117, 46, 119, 97, 118], exWav),
    ([101, 120, 116, 114, 97, 47, 65, 108, 112, 104, 97, 46, 119, 97, 118], exWav),
    ([98, 114, 97, 118, 111, 46, 119, 97, 118], exWav),
    ([47, 97, 98, 115, 47, 100, 101, 101, 112, 47, 47, 69, 99, 104, 111, 46, 87, 65, 86], exWav) ]

example : ∀ s ∈ exDirSrcs, PathOk s.1 := by
  intro s hs
  simp only [exDirSrcs, List.mem_cons, List.not_mem_nil, or_false] at hs
  rcases hs with rfl | rfl | rfl | rfl | rfl
  · exact ⟨[109, 105, 107, 101], .withExt [119, 97, 118], by decide, by decide, Or.inr ⟨[98, 97, 115, 101], rfl⟩⟩
  · exact ⟨[90, 117, 108, 117], .withExt [119, 97, 118], by decide, by decide, Or.inr ⟨[98, 97, 115, 101], rfl⟩⟩
  · exact ⟨[65, 108, 112, 104, 97], .withExt [119, 97, 118], by decide, by decide, Or.inr ⟨[101, 120, 116, 114, 97], rfl⟩⟩
  · exact ⟨[98, 114, 97, 118, 111], .withExt [119, 97, 118], by decide, by decide, Or.inl rfl⟩
  · exact ⟨[69, 99, 104, 111], .withExt [87, 65, 86], by decide, by decide, Or.inr ⟨[47, 97, 98, 115, 47, 100, 101, 101, 112, 47], rfl⟩⟩
example : Str.NoDupCI (fun s : Bytes × Desc => nameOf s.1) exDirSrcs := by unfold Str.NoDupCI; decide
/-- the names come out as `Alpha`, `bravo`, `Echo`, `mike`, `Zulu` … -/
example : (sortedSrcs exDirSrcs).map (fun s => nameOf s.1) = [[65, 108, 112, 104, 97], [98, 114, 97, 118, 111], [69, 99, 104, 111], [109, 105, 107, 101], [90, 117, 108, 117]] := by decide
/-- … whereas the paths as given, compared as whole strings, would start with `/abs/deep//Echo.WAV` -/
example : (sortedSrcs exDirSrcs).map (·.1) =
    [[101, 120, 116, 114, 97, 47, 65, 108, 112, 104, 97, 46, 119, 97, 118],
     [98, 114, 97, 118, 111, 46, 119, 97, 118],
     [47, 97, 98, 115, 47, 100, 101, 101, 112, 47, 47, 69, 99, 104, 111, 46, 87, 65, 86],
     [98, 97, 115, 101, 47, 109, 105, 107, 101, 46, 119, 97, 118],
     [98, 97, 115, 101, 47, 90, 117, 108, 117, 46, 119, 97, 118]] := by decide
/-- and a duplicate across directories (`base/mike.wav`, `extra/MIKE.WAV`) is refused -/
example : bytesOf? (create [([98, 97, 115, 101, 47, 109, 105, 107, 101, 46, 119, 97, 118], ⟨exWav.enc, 0⟩),
    ([98, 114, 97, 118, 111, 46, 119, 97, 118], ⟨exWav.enc, 0⟩), ([101, 120, 116, 114, 97, 47, 77, 73, 75, 69, 46, 87, 65, 86], ⟨exWav.enc, 0⟩)]) = none := by decide

end Op2.Props.C03
