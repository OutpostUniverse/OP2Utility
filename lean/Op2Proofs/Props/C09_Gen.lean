import Op2Proofs.Gen.Validate
import Op2Proofs.Tileset.Headers
import Op2Model.Tileset
/-!
# C09 — bridging lemmas: `Tileset::ValidateTileset` (`src/Sprite/TilesetLoader.cpp`), `TilesetHeader::Validate` and
`PpalHeader::Validate` (`src/Sprite/TilesetHeaders.cpp`), as translated from the current C++ on this run
(`Op2Model/Gen/Validate.lean`), decide exactly what the hand-written model `Op2Model/Tileset.lean` decides: `validateTs`, and the
two header guards `tilesetHeaderOk` / `ppalHeaderOk` — the named functions the reader `Rd.custom` calls — for every value of the C++
field types.  A `Tag` is its four bytes.  `none` = the C++ function throws.
-/
set_option linter.unusedSimpArgs false
namespace Op2.Props.C09
open Op2 Op2.Bmp Op2.Tileset Op2.GenBridge Op2.GenValidate
open Op2.Gen.Validate

/-- `Tileset::ValidateTileset(const BitmapFile&)`: the model's `validateTs` (the height is reduced modulo 2^32 before `% 32`) -/
theorem C09_gen_validateTileset : Tileset_ValidateTileset_translated = true →
    ∀ f : Bmp, f.ih.bitCount < W16 → I32_MIN ≤ f.ih.width → f.ih.width ≤ I32_MAX → I32_MIN ≤ f.ih.height → f.ih.height ≤ I32_MAX →
      Tileset_ValidateTileset f.ih.bitCount f.ih.width f.ih.height = returns (validateTs f).isOk := by
  gen_bridge =>
    intro f
    simp only [validateTs, isOk_ite, returns_decide]
    generalize f.ih.bitCount = bits
    generalize f.ih.width = w
    generalize f.ih.height = h
    intro h1 h2 h3 h4 h5
    rw [eq_accept_iff]
    simp only [Tileset.bitDepth, heightMultiple, toU32, W16, W32, I32_MIN, I32_MAX] at *
    gen_validate_unfold
    simp only [gen_outcome]
    (try simp only [gen_norm] at *)
    omega

/-- `TilesetHeader::Validate` decides the model's `tilesetHeaderOk` — the very function the reader `Rd.custom` calls as its second
    guard -/
theorem C09_gen_tilesetHeader_validate : TilesetHeader_Validate_translated = true →
    ∀ (t0 t1 t2 t3 : UInt8) (len tagCount pw ph : Nat), len < W32 → tagCount < W32 → pw < W32 → ph < W32 →
      TilesetHeader_Validate t0.toNat t1.toNat t2.toNat t3.toNat len tagCount pw ph =
        returns (tilesetHeaderOk [t0, t1, t2, t3] len tagCount pw ph) := by
  gen_bridge =>
    intro t0 t1 t2 t3 len tagCount pw ph h1 h2 h3 h4
    simp only [W32] at h1 h2 h3 h4
    unfold tilesetHeaderOk
    rw [returns_decide, eq_accept_iff]
    simp only [tagHead, tag_eq, UInt8.toNat_ofNat, headSectionSize, pixelWidth, heightMultiple, headTagCount]
    gen_validate_unfold
    simp only [gen_outcome]
    (try simp only [gen_norm] at *)
    omega

/-- `PpalHeader::Validate` decides the model's `ppalHeaderOk` — the function the reader `Rd.custom` calls as its third guard -/
theorem C09_gen_ppalHeader_validate : PpalHeader_Validate_translated = true →
    ∀ (p0 p1 p2 p3 h0 h1 h2 h3 : UInt8) (plen hlen tagCount : Nat), plen < W32 → hlen < W32 → tagCount < W32 →
      PpalHeader_Validate p0.toNat p1.toNat p2.toNat p3.toNat plen h0.toNat h1.toNat h2.toNat h3.toNat hlen tagCount =
        returns (ppalHeaderOk [p0, p1, p2, p3] plen [h0, h1, h2, h3] hlen tagCount) := by
  gen_bridge =>
    intro p0 p1 p2 p3 h0 h1 h2 h3 plen hlen tagCount a1 a2 a3
    simp only [W32] at a1 a2 a3
    unfold ppalHeaderOk
    rw [returns_decide, eq_accept_iff]
    simp only [tagPPAL, tagHead, tag_eq, UInt8.toNat_ofNat, ppalSectionSize, ppalHeadSectionSize, ppalTagCount]
    gen_validate_unfold
    simp only [gen_outcome]
    (try simp only [gen_norm] at *)
    omega

/-- **model side of the tie.**  The custom-tileset reader applies `tilesetHeaderOk` / `ppalHeaderOk` to the header fields stored at
    their fixed offsets: a file it accepts satisfies both; a file failing either is refused; and when the reader gets as far as the
    guard (file long enough, everything before accepted) the refusal is `format`. -/
theorem C09_reader_checks_headers (b : Bytes) :
    (∀ f, readCustom b = .ok f →
        tilesetHeaderOk (tagAt b 8) (u32At b 12) (u32At b 16) (u32At b 20) (u32At b 24) = true ∧
        ppalHeaderOk (tagAt b 36) (u32At b 40) (tagAt b 44) (u32At b 48) (u32At b 52) = true) ∧
    (tilesetHeaderOk (tagAt b 8) (u32At b 12) (u32At b 16) (u32At b 20) (u32At b 24) = false ∨
     ppalHeaderOk (tagAt b 36) (u32At b 40) (tagAt b 44) (u32At b 48) (u32At b 52) = false → ∃ e, readCustom b = .err e) ∧
    (36 ≤ b.length → tagAt b 0 = tagPBMP → u32At b 4 ≠ 0 →
        tilesetHeaderOk (tagAt b 8) (u32At b 12) (u32At b 16) (u32At b 20) (u32At b 24) = false → readCustom b = .err .format) ∧
    (56 ≤ b.length → tagAt b 0 = tagPBMP → u32At b 4 ≠ 0 →
        tilesetHeaderOk (tagAt b 8) (u32At b 12) (u32At b 16) (u32At b 20) (u32At b 24) = true →
        ppalHeaderOk (tagAt b 36) (u32At b 40) (tagAt b 44) (u32At b 48) (u32At b 52) = false → readCustom b = .err .format) := by
  refine ⟨?_, ?_, ?_, ?_⟩
  · intro f h
    obtain ⟨_, hp⟩ := runOut_eq_ok.mp h
    exact custom_headers hp
  · intro hbad
    obtain ⟨e, he⟩ := custom_bad_header (b := b) hbad
    exact ⟨e, runOut_of_err he⟩
  · intro hl hs hn hbad
    exact runOut_of_err (custom_bad_tilesetHeader hl hs hn hbad)
  · intro hl hs hn hok hbad
    exact runOut_of_err (custom_bad_ppalHeader hl hs hn hok hbad)

/-- **both halves together.**  On every file long enough to hold the two headers, `TilesetHeader::Validate` / `PpalHeader::Validate` as
    translated from the current C++, applied to the fields stored in the file, return exactly when the model's reader's guards
    hold; hence a file the model's reader accepts is one on which both C++ functions return, and a file (with an accepted signature
    section) on whose tileset header the C++ function throws is refused by the model's reader with `format`. -/
theorem C09_gen_reader_headers : TilesetHeader_Validate_translated = true → PpalHeader_Validate_translated = true →
    ∀ b : Bytes,
      (56 ≤ b.length →
        TilesetHeader_Validate (byteAt b 8).toNat (byteAt b 9).toNat (byteAt b 10).toNat (byteAt b 11).toNat
            (u32At b 12) (u32At b 16) (u32At b 20) (u32At b 24) = returns (tilesetHeaderOkAt b) ∧
        PpalHeader_Validate (byteAt b 36).toNat (byteAt b 37).toNat (byteAt b 38).toNat (byteAt b 39).toNat (u32At b 40)
            (byteAt b 44).toNat (byteAt b 45).toNat (byteAt b 46).toNat (byteAt b 47).toNat (u32At b 48) (u32At b 52) =
          returns (ppalHeaderOkAt b)) ∧
      (∀ f, readCustom b = .ok f →
        TilesetHeader_Validate (byteAt b 8).toNat (byteAt b 9).toNat (byteAt b 10).toNat (byteAt b 11).toNat
            (u32At b 12) (u32At b 16) (u32At b 20) (u32At b 24) = some () ∧
        PpalHeader_Validate (byteAt b 36).toNat (byteAt b 37).toNat (byteAt b 38).toNat (byteAt b 39).toNat (u32At b 40)
            (byteAt b 44).toNat (byteAt b 45).toNat (byteAt b 46).toNat (byteAt b 47).toNat (u32At b 48) (u32At b 52) = some ()) ∧
      (56 ≤ b.length → tagAt b 0 = tagPBMP → u32At b 4 ≠ 0 →
        TilesetHeader_Validate (byteAt b 8).toNat (byteAt b 9).toNat (byteAt b 10).toNat (byteAt b 11).toNat
            (u32At b 12) (u32At b 16) (u32At b 20) (u32At b 24) = none → readCustom b = .err .format) := by
  intro hT hP b
  have key : 56 ≤ b.length →
      TilesetHeader_Validate (byteAt b 8).toNat (byteAt b 9).toNat (byteAt b 10).toNat (byteAt b 11).toNat
          (u32At b 12) (u32At b 16) (u32At b 20) (u32At b 24) = returns (tilesetHeaderOkAt b) ∧
      PpalHeader_Validate (byteAt b 36).toNat (byteAt b 37).toNat (byteAt b 38).toNat (byteAt b 39).toNat (u32At b 40)
          (byteAt b 44).toNat (byteAt b 45).toNat (byteAt b 46).toNat (byteAt b 47).toNat (u32At b 48) (u32At b 52) =
        returns (ppalHeaderOkAt b) := by
    intro hl
    have lt : ∀ n, u32At b n < W32 := fun n => Codec.decU32_lt _
    unfold tilesetHeaderOkAt ppalHeaderOkAt
    rw [tagAt_bytes b 8 (by omega), tagAt_bytes b 36 (by omega), tagAt_bytes b 44 (by omega)]
    exact ⟨C09_gen_tilesetHeader_validate hT _ _ _ _ _ _ _ _ (lt _) (lt _) (lt _) (lt _),
           C09_gen_ppalHeader_validate hP _ _ _ _ _ _ _ _ _ _ _ (lt _) (lt _) (lt _)⟩
  refine ⟨key, ?_, ?_⟩
  · intro f h
    have hh := (C09_reader_checks_headers b).1 f h
    have hl : 56 ≤ b.length := by have := readCustom_length h; omega
    obtain ⟨k1, k2⟩ := key hl
    rw [k1, k2]
    unfold tilesetHeaderOkAt ppalHeaderOkAt
    rw [hh.1, hh.2]
    exact ⟨rfl, rfl⟩
  · intro hl hs hn hnone
    obtain ⟨k1, _⟩ := key hl
    rw [k1] at hnone
    have hbad : tilesetHeaderOkAt b = false := by
      cases hc : tilesetHeaderOkAt b with
      | false => rfl
      | true => rw [hc] at hnone; cases hnone
    exact (C09_reader_checks_headers b).2.2.1 (by omega) hs hn hbad

end Op2.Props.C09
