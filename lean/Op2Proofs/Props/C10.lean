import Op2Proofs.Prt.Write
import Op2Proofs.Prt.Bytes
import Op2Proofs.Prt.SpecEq
/-!
# C10 — PRT sprite metadata round-trips and always satisfies its cross-field rules
-/
namespace Op2.Prt
open Op2 Op2.Parser

/-- every accepted byte string yields a structure satisfying the cross-field rules — stated in ℕ: the scan-line width is
    the image width rounded up to four *without* 32-bit wrap, each palette index names an existing palette, each
    frame's 7-bit count is the number of its layers -/
theorem C10_read_rules (b : Bytes) (a : ArtFile) (h : read b = .ok a) : rules a := (read_wf h).2

/-- … and is representable (every field within its C++ type, every palette 256 colours, optional bytes zero unless
    their flag is set) -/
theorem C10_read_rep (b : Bytes) (a : ArtFile) (h : read b = .ok a) : a.Rep := (read_wf h).1

/-- structures violating the cross-field rules are refused by the writer -/
theorem C10_writer_refuses (a : ArtFile) (hr : a.Rep) (h : ¬ rules a) : ∃ e, write a = .error e := by
  cases hw : write a with
  | error e => exact ⟨e, rfl⟩
  | ok w => exact absurd ((write_eq_ok_of_rep hr w).mp hw).1 h

/-- write → read yields an equal structure: the structure just read is always written (never refused), and reading
    the written bytes returns it again, consuming all of them -/
theorem C10_rt (b : Bytes) (a : ArtFile) (h : read b = .ok a) :
    ∃ w, write a = .ok w ∧ read w = .ok a ∧ consumed w = w.length :=
  ⟨encFile a, write_of_wf (read_wf h), read_encFile (read_wf h)⟩

/-- the same for every well-formed structure, however it was obtained -/
theorem C10_rt_wf (a : ArtFile) (h : Spec.WF a) : ∃ w, write a = .ok w ∧ read w = .ok a :=
  ⟨encFile a, write_of_wf h, (read_encFile h).1⟩

/-- writing is byte-stable: read, write, read again, write again — the second output is identical to the first -/
theorem C10_stable (b : Bytes) (a : ArtFile) (h : read b = .ok a) (w : Bytes) (hw : write a = .ok w)
    (a' : ArtFile) (h' : read w = .ok a') : write a' = .ok w := by
  obtain ⟨w0, hw0, hr0, _⟩ := C10_rt b a h
  rw [hw] at hw0; cases hw0
  rw [hr0] at h'; cases h'
  exact hw

/-- every accepted input is, byte for byte, the encoding of the returned structure (with the palette headers `hs` the
    input had) followed by the untouched rest, where
    `encFileH hs a = "CPAL" ++ u32 |palettes| ++ (hs zip palettes).flatMap (h ++ encPalette p) ++ u32 |images| ++
     images.flatMap encImage ++ u32 |animations| ++ u32 (total frames) ++ u32 (total layers) ++ u32 unknownAnimationCount ++
     animations.flatMap encAnim`.
    In particular the palette / image / animation counts and the frame and layer totals stored in the input equal the
    actual contents of the structure. -/
theorem C10_read_layout (b : Bytes) (hs : List Bytes) (a : ArtFile) (rest : Bytes) (h : readFull b = .ok ((hs, a), rest)) :
    b = encFileH hs a ++ rest :=
  (readFull_eq_ok.mp h).2

/-- the palette count sits at offset 4, every palette has 256 colours, the totals fit their 32-bit fields -/
theorem C10_read_totals (b : Bytes) (a : ArtFile) (h : read b = .ok a) :
    decU32 (b.drop 4) = a.palettes.length ∧
    (∀ p ∈ a.palettes, p.length = 256) ∧
    totalFrames a.animations < W32 ∧ totalLayers a.animations < W32 := by
  obtain ⟨hs, rest, hwf, hl, _, _, hr⟩ := read_accepted h
  refine ⟨?_, hwf.1.palette_length, hwf.1.totalFrames_lt, hwf.1.totalLayers_lt⟩
  rw [(readFull_headers hr).1]; exact hl

/-- palettes are red-green-blue(-alpha) fields in memory and blue-green-red(-alpha) bytes in the file: the accepted
    input consists of the `CPAL` header, then per palette its 28 header bytes and, for each of its colours in order, the
    four bytes blue, green, red, alpha; then the rest of the file -/
theorem C10_palette_order (b : Bytes) (hs : List Bytes) (a : ArtFile) (rest : Bytes) (h : readFull b = .ok ((hs, a), rest)) :
    (∃ tail, b = tagCPAL ++ encU32 a.palettes.length ++
      (hs.zip a.palettes).flatMap (fun hp => hp.1 ++ hp.2.flatMap (fun c => [c.blue, c.green, c.red, c.alpha])) ++ tail) ∧
      hs.length = a.palettes.length ∧ (∀ h ∈ hs, h.length = 28) ∧ (∀ p ∈ a.palettes, p.length = 256) := by
  obtain ⟨⟨hwf, hl, hh⟩, hb⟩ := readFull_eq_ok.mp h
  refine ⟨?_, hl, fun x hx => (hh x hx).1, hwf.1.palette_length⟩
  obtain ⟨tail, ht⟩ := encFileH_palettes hs a
  exact ⟨tail ++ rest, by rw [hb, ht]; simp only [List.append_assoc]⟩

/-- … and the writer emits the same order after the canonical header -/
theorem C10_palette_order_write (a : ArtFile) (w : Bytes) (h : write a = .ok w) :
    ∃ tail, w = tagCPAL ++ encU32 a.palettes.length ++
      a.palettes.flatMap (fun p => canonicalPaletteHeader ++ p.flatMap (fun c => [c.blue, c.green, c.red, c.alpha])) ++ tail := by
  obtain ⟨_, rfl⟩ := (write_eq_ok a w).mp h
  exact encFile_palettes a

/-- whenever the input's palette section headers are canonical, writing reproduces the input bytes (the consumed part;
    the reader does not look at what follows) -/
theorem C10_bytes (b : Bytes) (a : ArtFile) (h : read b = .ok a) (hc : canonicalPaletteHeaders b) :
    write a = .ok (b.take (consumed b)) := by
  obtain ⟨hs, rest, hwf, hl, _, hb, hr⟩ := read_accepted h
  obtain ⟨hnp, hat⟩ := readFull_headers hr
  have hcan : ∀ x ∈ hs, x = canonicalPaletteHeader := by
    intro x hx
    obtain ⟨i, hi, rfl⟩ := List.getElem_of_mem hx
    rw [← hat i hi]; exact hc i (by rw [hnp]; exact hi)
  rw [encFileH_of_canonical hs a hl hcan] at hb
  have hcons : consumed b = (encFile a).length := by
    unfold consumed; rw [hr]; simp only; rw [hb]; simp
  rw [write_of_wf hwf, hcons, hb]
  simp

/-- and for every accepted input, canonical headers or not, the written bytes are those of the input with each palette
    header replaced by the canonical one -/
theorem C10_bytes_general (b : Bytes) (hs : List Bytes) (a : ArtFile) (rest : Bytes) (h : readFull b = .ok ((hs, a), rest)) :
    b = encFileH hs a ++ rest ∧ write a = .ok (encFileH (a.palettes.map fun _ => canonicalPaletteHeader) a) := by
  obtain ⟨⟨hwf, _⟩, hb⟩ := readFull_eq_ok.mp h
  exact ⟨hb, by rw [← encFile_eq]; exact write_of_wf hwf⟩

/- "Writing never alters the in-memory object": `write : ArtFile → Except Err Bytes` is a function; its argument is a value,
   not a reference, so the clause has no content in the model.  It is checked on the real object (structural dump before
   = after `Write`, also after a refused `Write`) by the correspondence run only. -/

/-- against the frozen, independently written format description: a well-formed structure is written as exactly
    `Spec.encode`, and the reader accepts every spec-encoded file and returns the structure -/
theorem C10_spec (a : ArtFile) (h : Spec.WF a) : write a = .ok (Spec.encode a) ∧ read (Spec.encode a) = .ok a := by
  rw [spec_encode a h.1]
  exact ⟨write_of_wf h, (read_encFile h).1⟩

/-- the rules are stated in ℕ: for a 32-bit width the 64-bit machine formula of `ValidateImageMetadata` is the true
    round-up, and no 32-bit scan-line width equals the round-up of a width above 2^32 − 4 (the wrap behind D23) -/
theorem C10_roundup_exact (w : Nat) (hw : w < W32) : u64 (w + 3) / 4 * 4 = roundUp4 w ∧ (w > 4294967292 → ∀ s < W32, s ≠ roundUp4 w) := by
  refine ⟨roundUp4_eq w hw, fun h s hs => ?_⟩
  unfold roundUp4; unfold W32 at hs; omega

/-! ## bridging lemmas: generated layout facts the model relies on -/
theorem C10_gen_sizes : Gen.Layout.size_SectionHeader = 8 ∧ Gen.Layout.size_PaletteHeader = 28 ∧ Gen.Layout.size_Palette8Bit = 1024 ∧
    Gen.Layout.size_Color = 4 ∧ Gen.Layout.size_ImageMeta = 20 ∧ Gen.Layout.size_Layer = 8 ∧ Gen.Layout.size_LayerMetadata = 1 ∧
    Gen.Layout.size_UnknownContainer = 16 := by decide
theorem C10_gen_imageMeta_offsets : [Gen.Layout.off_ImageMeta_scanLineByteWidth, Gen.Layout.off_ImageMeta_pixelDataOffset,
    Gen.Layout.off_ImageMeta_height, Gen.Layout.off_ImageMeta_width, Gen.Layout.off_ImageMeta_type, Gen.Layout.off_ImageMeta_paletteIndex] =
    [0, 4, 8, 12, 16, 18] := by decide
theorem C10_gen_layer_offsets : [Gen.Layout.off_Layer_bitmapIndex, Gen.Layout.off_Layer_unknown, Gen.Layout.off_Layer_frameIndex,
    Gen.Layout.off_Layer_pixelOffset] = [0, 2, 3, 4] := by decide
theorem C10_gen_paletteHeader_offsets : [Gen.Layout.off_SectionHeader_length, Gen.Layout.off_PaletteHeader_sectionHeader,
    Gen.Layout.off_PaletteHeader_remainingTagCount, Gen.Layout.off_PaletteHeader_dataHeader] = [4, 8, 16, 20] := by decide
theorem C10_gen_color_order : [Gen.Layout.off_Color_red, Gen.Layout.off_Color_green, Gen.Layout.off_Color_blue, Gen.Layout.off_Color_alpha] =
    [0, 1, 2, 3] := by decide
/-- the header `PaletteHeader::CreatePaletteHeader()` builds in the current source is the model's canonical header, and it
    passes the reader's validation -/
theorem C10_gen_canonical_header : Gen.Layout.prt_canonicalPaletteHeader.map UInt8.ofNat = canonicalPaletteHeader ∧
    paletteHeaderOk canonicalPaletteHeader = true := by decide
theorem C10_gen_tag : Gen.Layout.prt_TagPalette.map UInt8.ofNat = tagCPAL := by decide
theorem C10_gen_frame_bits : Gen.Layout.mask_LayerMetadata_count = 127 ∧ Gen.Layout.mask_LayerMetadata_bReadOptionalData = 128 := by decide

/-! ## non-vacuity -/
/-- one animation with two frames (both flag combinations that carry optional bytes), an unknown-container entry -/
def exArt : ArtFile :=
  ⟨[], [], [⟨1, 2, 3, 4, 5, 6, 7, 8,
      [⟨⟨1, true⟩, ⟨5, false⟩, 9, 10, 0, 0, [⟨300, 1, 2, 65535, 4⟩]⟩, ⟨⟨0, false⟩, ⟨127, true⟩, 0, 0, 11, 12, []⟩],
      [⟨1, 2, 3, 4294967295⟩]⟩], 77⟩

def rtOk (a : ArtFile) : Bool :=
  match write a with
  | .ok w => (match read w with | .ok a' => decide (a' = a) && decide (consumed w = w.length) | .error _ => false)
  | .error _ => false

example : (write exArt).toOption.map List.length = some 100 := by decide
example : rtOk exArt = true := by decide
example : (write exArt).toOption = some (Spec.encode exArt) := by decide
example : canonicalPaletteHeaders (Spec.encode exArt) := by
  intro i hi
  have : decU32 ((Spec.encode exArt).drop 4) = 0 := by decide
  omega

/-- the same structure with a count of 2 over a single layer: refused -/
def exBad : ArtFile :=
  ⟨[], [], [⟨1, 2, 3, 4, 5, 6, 7, 8, [⟨⟨2, true⟩, ⟨5, false⟩, 9, 10, 0, 0, [⟨300, 1, 2, 65535, 4⟩]⟩], []⟩], 0⟩
example : (write exBad).toOption = none := by decide
/-- width 0xFFFFFFFE with scan line 0 (accepted by the 32-bit formula before the repair) violates the rules -/
example : ¬ rules ⟨[], [⟨0, 0, 0, 4294967294, 0, 0⟩], [], 0⟩ := by
  intro h
  have := (h.1 ⟨0, 0, 0, 4294967294, 0, 0⟩ (by simp)).1
  simp at this

end Op2.Prt
