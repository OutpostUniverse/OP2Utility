import Op2Model.Prt
import Op2Proofs.Gen.Guards
/-!
# C10 / C20 (PRT) — the refusal conditions of `ArtFile::WriteFrame` and of one iteration of
`ArtFile::ValidateImageMetadata`, as regenerated from the current C++ (`Op2Model/Gen/Guards.lean`), are those of the
model (`Prt.writeFrame`, `Prt.imageOk`) for ALL values of the C++ types.

Ranges: the recorded layer count is a 7-bit field, `layers.size()` / `palettes.size()` are `size_t` (`< 2^63`),
`scanLineByteWidth` and `width` are `uint32_t`, `paletteIndex` is a `uint16_t`.
-/
set_option linter.unusedSimpArgs false
namespace Op2.Props.C10Gen
open Op2 Op2.Prt Op2.Gen.Guards Op2.GenTactics Op2.GenGuards

theorem writeFrame_refused (f : Frame) : refused (writeFrame f) = decide (f.layerMeta.count ≠ f.layers.length) := by
  simp only [writeFrame]
  by_cases h : f.layerMeta.count = f.layers.length <;> simp [h]

theorem C10_gen_writeFrame_refuses : ArtFile_WriteFrame_guards_translated = true →
    ∀ (f : Frame), f.layerMeta.count < 128 → f.layers.length < 2 ^ 63 →
      ArtFile_WriteFrame_refuses f.layerMeta.count f.layers.length = refused (writeFrame f) := by
  gen_bridge =>
    intro f h1 h2
    rw [writeFrame_refused]
    generalize f.layerMeta.count = c at *
    generalize f.layers.length = n at *
    unfold ArtFile_WriteFrame_refuses
    guard_beq
    (try simp only [gen_norm] at *); omega

/-- `ValidateImageMetadata`, one image: refused iff the scan-line width is not the width rounded up to a multiple of 4
    (computed in 64 bits) or the palette index is not below the number of palettes — the negation of `Prt.imageOk` -/
theorem C10_gen_imageOk : ArtFile_ValidateImageMetadata_guards_translated = true →
    ∀ (np : Nat) (im : ImageMeta), im.scanLineByteWidth < W32 → im.width < W32 → im.paletteIndex < 65536 → np < 2 ^ 63 →
      ArtFile_ValidateImageMetadata_refuses im.scanLineByteWidth im.width im.paletteIndex np = !imageOk np im := by
  gen_bridge =>
    intro np im h1 h2 h3 h4
    unfold imageOk
    generalize im.scanLineByteWidth = s at *
    generalize im.width = w at *
    generalize im.paletteIndex = p at *
    unfold ArtFile_ValidateImageMetadata_refuses
    guard_beq
    simp only [u64, W32, W64] at *
    (try simp only [gen_norm] at *)
    repeat rw [and_mask64 _ (by omega)]
    nowrap s; nowrap w; nowrap p
    omega

end Op2.Props.C10Gen
