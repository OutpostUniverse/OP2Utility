import Op2Proofs.Gen.Bits
import Op2Proofs.Lzh.Bits
/-!
# C04 — bridging lemmas: `BitStreamReader`, as translated from the current C++ on this run (`Op2Model/Gen/Bits.lean`, generator
`extract/gen_bits.py`), is the bit reader of `Op2Model/Lzh.lean`.

`ReadNextBit` is the model's class as written (`CBits.readBit`) on every state, hence (by `readBit_refines`) the *pure* bit stream
(`readBit`: MSB first, zero past the end) on every state satisfying the register invariant `CInv`, which the step re-establishes.  `ReadNext8Bits` is tied to the pure `read8` directly under `CInv` (the register holds the
current byte shifted left by the bits already read, so the OR with the next byte is a sum).
-/
set_option linter.unusedSimpArgs false
namespace Op2.Props.C04
open Op2 Op2.Huff Op2.Lzh Op2.GenBridge Op2.GenBits
open Op2.Gen.Bits

/-- the buffer as the generated definitions see it -/
def memOf (data : Array UInt8) : Int → Int := fun i => (byteAt data i.toNat : Int)

theorem memOf_div8 (data : Array UInt8) (p : Nat) : memOf data ((p : Int) / 8) = (byteAt data (p / 8) : Int) := by
  have : ((p : Int) / 8).toNat = p / 8 := by omega
  simp only [memOf, this]
theorem memOf_div8_next (data : Array UInt8) (p : Nat) :
    memOf data (((p : Int) + 8) / 8) = (byteAt data (p / 8 + 1) : Int) := by
  have : (((p : Int) + 8) / 8).toNat = p / 8 + 1 := by omega
  simp only [memOf, this]

/-- what the generated bit reader reports of a step of the class as written: value, cursor, register -/
def stepView (r : Nat × CBits) : Int × Int × Int := ((r.1 : Int), (r.2.pos : Int), (r.2.buf : Int))

/-- the generated `ReadNextBit` is the model's `CBits.readBit` on every state (no invariant: the two are the same text up to
    conversions, which cannot change a byte or a cursor below 2^64) -/
theorem C04_gen_readNextBit_step : BitStreamReader_ReadNextBit_translated = true →
    ∀ (data : Array UInt8) (c : CBits), bitSize data < 2 ^ 64 → c.buf < 256 →
      BitStreamReader_ReadNextBit (bitSize data) c.pos c.buf (memOf data) = some (stepView (CBits.readBit data c)) := by
  gen_bridge =>
    intro data c hs hb
    obtain ⟨p, buf⟩ := c
    have hB := byteAt_lt data (p / 8)
    have hm := memOf_div8 data p
    simp only [CBits.readBit, stepView, ← byteAt.eq_1] at hb ⊢
    unfold bitSize at *
    generalize byteAt data (p / 8) = B at *
    generalize data.size = n at *
    simp only [BitStreamReader_ReadNextBit]
    (try simp only [gen_norm] at *)
    by_cases he : p ≥ 8 * n
    · simp (disch := omega) only [↓if_pos, ↓if_neg] <;> rfl
    · -- the register after the (possible) reload
      obtain ⟨r, hr, hr256⟩ : ∃ r, (if p % 8 = 0 then B else buf) = r ∧ r < 256 := ⟨_, rfl, by split <;> omega⟩
      simp only [if_neg he, hr]
      split at hr <;> subst hr <;>
      · simp (disch := omega) only [↓if_pos, ↓if_neg, hm, castS32_small, Int.emod_eq_of_lt, Int.toNat_natCast]
        clear hm
        simp only [castS_32, natCast_ite, Int.cast_ofNat_Int, Option.some.injEq, Prod.mk.injEq]
        omega

theorem C04_gen_readNextBit : BitStreamReader_ReadNextBit_translated = true →
    ∀ (data : Array UInt8) (c : CBits), bitSize data < 2 ^ 64 → c.buf < 256 → CInv data c →
      ∃ buf' : Nat, buf' < 256 ∧ CInv data ⟨(readBit data c.pos).2, buf'⟩ ∧
        BitStreamReader_ReadNextBit (bitSize data) c.pos c.buf (memOf data) =
          some (((readBit data c.pos).1 : Int), ((readBit data c.pos).2 : Int), (buf' : Int)) := by
  intro ht data c hs hb hinv
  obtain ⟨h1, h2, h3⟩ := readBit_refines data c hinv
  refine ⟨(CBits.readBit data c).2.buf, CBits.readBit_buf_lt data c hb, ?_, ?_⟩
  · rw [← h2]; exact h3
  · rw [C04_gen_readNextBit_step ht data c hs hb, stepView, h1, h2]

theorem C04_gen_readNext8Bits : BitStreamReader_ReadNext8Bits_translated = true →
    ∀ (data : Array UInt8) (c : CBits), bitSize data < 2 ^ 64 → c.buf < 256 → CInv data c →
      ∃ buf' : Nat, buf' < 256 ∧ CInv data ⟨(read8 data c.pos).2, buf'⟩ ∧
        BitStreamReader_ReadNext8Bits (bitSize data) c.pos c.buf (memOf data) =
          some (((read8 data c.pos).1 : Int), ((read8 data c.pos).2 : Int), (buf' : Int)) := by
  gen_bridge =>
    intro data c hs hb hinv
    obtain ⟨p, buf⟩ := c
    simp only at hb hinv ⊢
    have hB := byteAt_lt data (p / 8)
    have hN := byteAt_lt data (p / 8 + 1)
    have hm := memOf_div8 data p
    have hm8 := memOf_div8_next data p
    by_cases he : p ≥ bitSize data
    · refine ⟨buf, hb, ?_, ?_⟩
      · simp only [read8, if_pos he]; exact hinv
      · simp only [read8, if_pos he, BitStreamReader_ReadNext8Bits]
        unfold bitSize at *
        (try simp only [gen_norm] at *)
        simp (disch := omega) only [↓if_pos, ↓if_neg] <;> rfl
    · have hlt : p < bitSize data := by omega
      by_cases hz : p % 8 = 0
      · refine ⟨buf, hb, ?_, ?_⟩
        · simp only [read8, if_neg he]
          intro hnz; exact absurd (show (p + 8) % 8 = 0 by omega) hnz
        · simp only [read8, if_neg he, bits8_aligned data p hz, BitStreamReader_ReadNext8Bits]
          unfold bitSize at *
          generalize byteAt data (p / 8) = B at *
          (try simp only [gen_norm] at *)
          simp (disch := omega) only [↓if_pos, ↓if_neg, castS32_small, hm, Int.emod_eq_of_lt] <;> rfl
      · have hreg := hinv hz hlt
        simp only at hreg
        refine ⟨(byteAt data (p / 8 + 1) * 2 ^ (p % 8)) % 256, Nat.mod_lt _ (by omega), ?_, ?_⟩
        · simp only [read8, if_neg he]
          intro _ _
          have e1 : (p + 8) / 8 = p / 8 + 1 := by omega
          have e2 : (p + 8) % 8 = p % 8 := by omega
          simp only [e1, e2]
        · -- past the end the next byte reads 0 (an `if`, not a disjunction: every `omega` below would case-split on it)
          have hN0 : (if p + 8 < bitSize data then byteAt data (p / 8 + 1) else 0) = byteAt data (p / 8 + 1) := by
            split
            · rfl
            · exact (byteAt_past data _ (by unfold bitSize at *; omega)).symm
          simp only [read8, if_neg he, bits8_two_bytes data p, BitStreamReader_ReadNext8Bits]
          unfold bitSize at *
          clear hinv
          generalize byteAt data (p / 8) = B at *
          generalize byteAt data (p / 8 + 1) = Nb at *
          generalize data.size = n at *
          (try simp only [gen_norm] at *)
          -- everything that does not depend on the bit offset `k` once, with `k` a variable …
          obtain ⟨k, hk⟩ : ∃ k, p % 8 = k := ⟨_, rfl⟩
          have hk1 : 1 ≤ k := by omega
          have hk7 : k ≤ 7 := by omega
          -- (`idx % 8` spelled on `size_t` is the same offset as `idx & 7`)
          have hkI : (p : Int) % 8 = (k : Int) := by omega
          simp only [hk, hkI] at hreg ⊢
          have hk8 : (8 - (k : Int)).toNat = 8 - k := by omega
          simp (disch := omega) only [↓if_pos, ↓if_neg, castS32_small, Int.emod_eq_of_lt, hk8, Int.toNat_natCast]
          by_cases h8 : p + 8 < 8 * n
          · simp (disch := omega) only [↓if_neg, hm8, castS32_small]
            simp only [Option.some.injEq, Prod.mk.injEq]
            -- … then the shifts, per offset, on the two bytes alone (a literal shift count is what lets `omega` see through
            -- any spelling of them; OR of disjoint bit ranges is the sum)
            have hcases : k = 1 ∨ k = 2 ∨ k = 3 ∨ k = 4 ∨ k = 5 ∨ k = 6 ∨ k = 7 := by omega
            refine ⟨?_, by omega, ?_⟩ <;> clear hs he hlt h8 hm hm8 hz hN0 hk8 hk hkI
            · rw [or_disj k]
              all_goals
                rcases hcases with rfl | rfl | rfl | rfl | rfl | rfl | rfl <;>
                · simp only [Nat.reducePow, Nat.reduceSub, Int.reducePow, castS_32] at *
                  omega
            · rcases hcases with rfl | rfl | rfl | rfl | rfl | rfl | rfl <;>
              · simp only [Nat.reducePow, Nat.reduceSub, Int.reducePow, castS_32] at *
                omega
          · rw [if_neg h8] at hN0
            subst hN0
            simp (disch := omega) only [↓if_pos, castS32_small, Int.zero_ediv, Int.zero_emod, Int.toNat_zero, Nat.or_zero,
              Int.zero_mul, Nat.zero_div, Nat.zero_mul, Nat.zero_mod, Nat.add_zero, ← hreg] <;> rfl

theorem C04_gen_endOfStream : (BitStreamReader_EndOfStream_translated && BitStreamReader_GetBitReadPos_translated) = true →
    ∀ (data : Array UInt8) (p buf : Nat),
      BitStreamReader_EndOfStream (bitSize data) p buf = some (if endOfStream data p then 1 else 0) ∧
      BitStreamReader_GetBitReadPos (bitSize data) p buf = some (p : Int) := by
  gen_bridge =>
    intro data p buf
    simp only [BitStreamReader_EndOfStream, BitStreamReader_GetBitReadPos, endOfStream, decide_eq_true_eq]
    refine ⟨?_, ?_⟩ <;> gen_close

theorem C04_gen_reader_create : BitStreamReader_Create_translated = true →
    ∀ (data : Array UInt8), data.size < 2 ^ 64 →
      BitStreamReader_Create data.size = (if data.size < 2 ^ 61 then some ((bitSize data : Int), 0, 0) else none) := by
  gen_bridge =>
    intro data hs
    simp only [BitStreamReader_Create, bitSize] at *
    bits_norm
    gen_close

end Op2.Props.C04
