import Op2Proofs.Map.Read
import Op2Proofs.Map.Write
import Op2Proofs.Props.C16
import Op2Model.Gen.Layout
import Op2Model.Gen.Constants
import Op2Model.Gen.Formulas
/-!
# C06 — map read/write round-trips every field and is byte-stable (also after the public edits)

`read` = `Map::ReadMap(Stream::Reader&)`, `write` = `Map::Write(Stream::Writer&)`, the four edits = `SetCellType`,
`SetLavaPossible`, `SetVersionTag`, `TrimTilesetSources` (`Op2Model/Map.lean`).  A `Map` value holds every public field
(dimensions, version tag, saved-game flag, tiles, clip rectangle, tileset sources, mappings, terrain types, tile groups),
so `m = m'` below is equality in every field.  All statements are for **all** byte strings / all maps / all edit histories.
-/
namespace Op2.Props.C06
open Op2 Op2.Map Op2.Parser

/-! ## generated facts the model relies on -/

theorem C06_gen_layout :
    Gen.Layout.size_MapHeader = headerSize ∧ Gen.Layout.off_MapHeader_versionTag = 0 ∧
    Gen.Layout.off_MapHeader_bSavedGame = 4 ∧ Gen.Layout.off_MapHeader_lgWidthInTiles = 8 ∧
    Gen.Layout.off_MapHeader_heightInTiles = 12 ∧ Gen.Layout.off_MapHeader_tilesetCount = 16 ∧
    Gen.Layout.MinMapVersion = minMapVersion ∧ Gen.Layout.size_Tile = 4 ∧ Gen.Layout.size_Rect = rectSize ∧
    Gen.Layout.size_TileMapping = mappingSize ∧ Gen.Layout.size_TerrainType = terrainSize := by decide

theorem C06_gen_marker : Gen.Constants.map_tilesetHeader_scraped = true → Gen.Constants.map_tilesetHeader = marker.map (·.toNat) := by decide

/-- the writer's `Log2OfPowerOf2` / `IsPowerOf2` (as translated from the source) invert the reader's `1 << lg` -/
theorem C06_gen_log2 : (Gen.Formulas.gen_Log2OfPowerOf2_translated && Gen.Formulas.gen_IsPowerOf2_translated &&
      Gen.Formulas.gen_WidthInTiles_translated) = true → ∀ k : Nat, k < 32 →
    Gen.Formulas.gen_Log2OfPowerOf2 ((2 : Int) ^ k) = k ∧ Gen.Formulas.gen_IsPowerOf2 ((2 : Int) ^ k) = 1 ∧
    Gen.Formulas.gen_WidthInTiles (k : Int) = ((2 ^ k : Nat) : Int) := by decide

theorem C06_lgOf_inverts_width (k : Nat) (hk : k < 32) : lgOf (2 ^ k) = .ok k := lgOf_pow k hk

/-- every map the reader returns satisfies the format's well-formedness conditions -/
theorem C06_read_wf (b : Bytes) (m : Map) (n : Nat) (h : read b = .ok m n) : Spec.WF m := by
  obtain ⟨_, _, _, _, wf, _⟩ := read_eq_ok.mp h
  exact wf

/-- on every well-formed map the writer succeeds and emits exactly the frozen description of the format -/
theorem C06_writer_conforms (m : Map) (h : Spec.WF m) : write m = .ok (Spec.encode m) := by
  obtain ⟨k, hk, hw⟩ := h.width
  rw [write_eq (fits_of_wf h) hk hw, unknownWord_eq _ h.ngrp, encode_eq_fileOf hk hw]

/-- … and the reader accepts that file, returns the same map in every field, and consumes exactly the file
    (whatever follows it) -/
theorem C06_reader_accepts_spec (m : Map) (h : Spec.WF m) (junk : Bytes) :
    read (Spec.encode m ++ junk) = .ok m (Spec.encode m).length := by
  obtain ⟨k, hk, hw⟩ := h.width
  rw [encode_eq_fileOf hk hw]
  exact read_eq_ok.mpr ⟨k, _, _, junk, h, hk, hw, (flagWord _).1, (flagWord _).2,
    Nat.lt_of_le_of_lt (Nat.sub_le _ _) h.ngrp, rfl, rfl⟩

/-- for every byte string the reader accepts: writing the map succeeds and reading the written bytes gives a map equal in
    every field, consuming all of them -/
theorem C06_rt_fields (b : Bytes) (m : Map) (n : Nat) (h : read b = .ok m n) :
    ∃ out, write m = .ok out ∧ read out = .ok m out.length := by
  have wf := C06_read_wf b m n h
  refine ⟨Spec.encode m, C06_writer_conforms m wf, ?_⟩
  simpa using C06_reader_accepts_spec m wf []

/-- writing is byte-stable from then on: re-reading what was written and writing again gives the same bytes -/
theorem C06_stable (b : Bytes) (m : Map) (n : Nat) (h : read b = .ok m n) (out : Bytes) (hw : write m = .ok out)
    (m2 : Map) (n2 : Nat) (h2 : read out = .ok m2 n2) : write m2 = .ok out := by
  obtain ⟨out', hw', hr'⟩ := C06_rt_fields b m n h
  rw [hw] at hw'; cases hw'
  rw [h2] at hr'; cases hr'
  exact hw

/-- trailing bytes are ignored: only the consumed prefix matters, whatever follows it -/
theorem C06_trailing (b : Bytes) (m : Map) (n : Nat) (h : read b = .ok m n) (junk : Bytes) :
    n ≤ b.length ∧ read (b.take n ++ junk) = .ok m n :=
  trailing_of_local local_pMap b m n h junk

/-- The bytes the reader consumed are `pre ++ flagWord ++ mid ++ unknownWord ++ groups` with the saved-game word at offset 4
    and the undocumented word right after the tile-group count; the writer emits the same `pre`, `mid`, `groups`, the flag
    as 0/1 and the undocumented word regenerated as (number of groups − 1). -/
theorem C06_bytes (b : Bytes) (m : Map) (n : Nat) (h : read b = .ok m n) :
    ∃ pre flagWord mid unkWord grp : Bytes,
      b.take n = pre ++ flagWord ++ mid ++ unkWord ++ grp ∧
      write m = .ok (pre ++ encU32 (if m.savedGame then 1 else 0) ++ mid ++ encU32 (m.groups.length - 1) ++ grp) ∧
      pre.length = 4 ∧ flagWord.length = 4 ∧ unkWord.length = 4 ∧ grp = m.groups.flatMap encGroup ∧
      (m.savedGame = true ↔ flagWord ≠ encU32 0) := by
  obtain ⟨k, sg, unk, r, wf, hk, hw, hsg, esg, hu, rfl, rfl⟩ := read_eq_ok.mp h
  refine ⟨encU32 m.versionTag, encU32 sg,
    encU32 k ++ encU32 m.height ++ encU32 m.sources.length ++ bodyLayout m ++ encU32 m.versionTag ++ encU32 m.versionTag ++
      encU32 m.groups.length, encU32 unk, m.groups.flatMap encGroup, ?_, ?_, rfl, rfl, rfl, rfl, ?_⟩
  · rw [List.take_left' rfl]; simp only [fileOf, beginOf, List.append_assoc]
  · rw [write_eq (fits_of_wf wf) hk hw, unknownWord_eq _ wf.ngrp]; simp only [fileOf, beginOf, List.append_assoc]
  · rw [esg, bne_iff_ne]
    exact ⟨fun hne e => hne (Codec.encU32_inj hsg (by decide) e), fun hne e => hne (e ▸ rfl)⟩

/-- what the writer normalises in a file that reads as `m`: the saved-game word (offset 4) becomes 0/1 and the word after
    the tile-group count (8 bytes of count + word, then the groups, end the file) becomes `count − 1` -/
def normalise (m : Map) (bs : Bytes) : Bytes :=
  setWord (setWord bs 4 (if m.savedGame then 1 else 0)) (bs.length - (m.groups.flatMap encGroup).length - 4) (m.groups.length - 1)

theorem C06_bytes_normalise (b : Bytes) (m : Map) (n : Nat) (h : read b = .ok m n) :
    write m = .ok (normalise m (b.take n)) := by
  obtain ⟨pre, fw, mid, uw, grp, e1, e2, l1, l2, l3, eg, _⟩ := C06_bytes b m n h
  rw [e2]; congr 1
  unfold normalise
  rw [e1]
  have s1 : setWord (pre ++ fw ++ mid ++ uw ++ grp) 4 (if m.savedGame then 1 else 0) =
      pre ++ encU32 (if m.savedGame then 1 else 0) ++ mid ++ uw ++ grp := by
    have := setWord_mid pre fw (mid ++ uw ++ grp) (if m.savedGame then 1 else 0) l2
    rw [l1] at this
    simpa [List.append_assoc] using this
  rw [s1]
  have hl : (pre ++ fw ++ mid ++ uw ++ grp).length - (m.groups.flatMap encGroup).length - 4 =
      (pre ++ encU32 (if m.savedGame then 1 else 0) ++ mid).length := by
    rw [← eg]; simp [List.length_append, l1, l2, l3, encU32_length]; omega
  rw [hl]
  have := setWord_mid (pre ++ encU32 (if m.savedGame then 1 else 0) ++ mid) uw grp (m.groups.length - 1) l3
  exact this.symm

/-- `SetCellType` with an acceptable value changes the tile list only, and there only the addressed tile, and of that tile
    only the cell-type field, which then reads back as the given value; an out-of-range value is refused and changes nothing -/
theorem C06_edit_frame_cellType (m m' : Map) (v x y : Nat) (h : setCellType m v x y = .ok (.ok m')) :
    v ≤ 31 ∧ m' = { m with tiles := m'.tiles } ∧ m'.tiles.length = m.tiles.length ∧
    (∀ j, j ≠ Tile.tileIndex m.height x y → m'.tiles[j]? = m.tiles[j]?) ∧
    (m'.tiles[Tile.tileIndex m.height x y]? = (m.tiles[Tile.tileIndex m.height x y]?).map (fun w => Tile.withCellType w v)) ∧
    (∀ w, Tile.cellTypeOf (Tile.withCellType w v) = v ∧ Tile.mappingIndexOf (Tile.withCellType w v) = Tile.mappingIndexOf w ∧
      Tile.unitIndexOf (Tile.withCellType w v) = Tile.unitIndexOf w ∧ Tile.lavaOf (Tile.withCellType w v) = Tile.lavaOf w ∧
      Tile.lavaPossibleOf (Tile.withCellType w v) = Tile.lavaPossibleOf w ∧
      Tile.expansionOf (Tile.withCellType w v) = Tile.expansionOf w ∧ Tile.microbeOf (Tile.withCellType w v) = Tile.microbeOf w ∧
      Tile.wallOf (Tile.withCellType w v) = Tile.wallOf w) := by
  obtain ⟨hv, -, rfl⟩ := setCellType_eq_ok.mp h
  exact ⟨hv, rfl, List.length_modify .., fun j hj => C16.C16_setter_touches_one_tile _ _ _ _ (Ne.symm hj),
    C16.C16_setter_hits_addressed_tile _ _ _,
    fun w => ⟨C16.C16_cellType_get_set w v (Nat.lt_succ_of_le hv), C16.C16_cellType_set_frame w v⟩⟩

theorem C06_edit_cellType_refused (m : Map) (v x y : Nat) (hv : v > 31) : setCellType m v x y = .ok (.error .refused) := by
  unfold setCellType; rw [if_pos hv]

/-- `SetLavaPossible` changes only the lava-possible bit of the addressed tile -/
theorem C06_edit_frame_lava (m m' : Map) (b : Bool) (x y : Nat) (h : setLavaPossible m b x y = .ok m') :
    m' = { m with tiles := m'.tiles } ∧ m'.tiles.length = m.tiles.length ∧
    (∀ j, j ≠ Tile.tileIndex m.height x y → m'.tiles[j]? = m.tiles[j]?) ∧
    (m'.tiles[Tile.tileIndex m.height x y]? = (m.tiles[Tile.tileIndex m.height x y]?).map (fun w => Tile.withLavaPossible w b)) ∧
    (∀ w, Tile.lavaPossibleOf (Tile.withLavaPossible w b) = b ∧ Tile.cellTypeOf (Tile.withLavaPossible w b) = Tile.cellTypeOf w ∧
      Tile.mappingIndexOf (Tile.withLavaPossible w b) = Tile.mappingIndexOf w ∧
      Tile.unitIndexOf (Tile.withLavaPossible w b) = Tile.unitIndexOf w ∧ Tile.lavaOf (Tile.withLavaPossible w b) = Tile.lavaOf w ∧
      Tile.expansionOf (Tile.withLavaPossible w b) = Tile.expansionOf w ∧
      Tile.microbeOf (Tile.withLavaPossible w b) = Tile.microbeOf w ∧ Tile.wallOf (Tile.withLavaPossible w b) = Tile.wallOf w) := by
  obtain ⟨-, rfl⟩ := setLavaPossible_eq_ok.mp h
  exact ⟨rfl, List.length_modify .., fun j hj => C16.C16_setter_touches_one_tile _ _ _ _ (Ne.symm hj),
    C16.C16_setter_hits_addressed_tile _ _ _, fun w => ⟨C16.C16_lava_get_set w b, C16.C16_lava_set_frame w b⟩⟩

/-- `SetVersionTag` changes the version tag and nothing else -/
theorem C06_edit_frame_versionTag (m : Map) (v : Nat) :
    setVersionTag m v = { m with versionTag := v } := rfl

/-- `TrimTilesetSources` changes the source list only: it keeps, in order, exactly the sources that have both a name and a
    non-zero tile count -/
theorem C06_edit_frame_trim (m : Map) :
    trimTilesetSources m = { m with sources := (trimTilesetSources m).sources } ∧
    (trimTilesetSources m).sources = m.sources.filter (fun s => s.numTiles != 0 && !s.name.isEmpty) ∧
    (trimTilesetSources m).sources.Sublist m.sources := by
  refine ⟨rfl, ?_, List.filter_sublist⟩
  unfold trimTilesetSources Source.isEmpty
  simp only []
  congr 1; funext s
  show (!(s.numTiles == 0 || s.name.isEmpty)) = (!(s.numTiles == 0) && !s.name.isEmpty)
  cases (s.numTiles == 0) <;> cases s.name.isEmpty <;> rfl

/-- maps reachable from `m0` by the public edits (coordinates inside the map — C16's subject —, cell types the setter
    accepts or refuses, version tags the format allows) -/
inductive Edited (m0 : Map) : Map → Prop
  | start : Edited m0 m0
  | cellType {m m' : Map} (v x y : Nat) : Edited m0 m → setCellType m v x y = .ok (.ok m') → Edited m0 m'
  | cellTypeRefused {m : Map} (v x y : Nat) : Edited m0 m → setCellType m v x y = .ok (.error .refused) → Edited m0 m
  | lava {m m' : Map} (b : Bool) (x y : Nat) : Edited m0 m → setLavaPossible m b x y = .ok m' → Edited m0 m'
  | versionTag {m : Map} (v : Nat) : Edited m0 m → minMapVersion ≤ v → v < W32 → Edited m0 (setVersionTag m v)
  | trim {m : Map} : Edited m0 m → Edited m0 (trimTilesetSources m)

theorem C06_edits_preserve_wf (m0 m : Map) (h0 : Spec.WF m0) (h : Edited m0 m) : Spec.WF m := by
  induction h with
  | start => exact h0
  | cellType v x y _ he ih => exact wf_setCellType ih he
  | cellTypeRefused v x y _ _ ih => exact ih
  | lava b x y _ he ih => exact wf_setLavaPossible ih he
  | versionTag v _ h1 h2 ih => exact wf_setVersionTag ih h1 h2
  | trim _ ih => exact wf_trim ih

/-- after any finite sequence of public edits on a map that was read: writing succeeds, emits the frozen format, reads back
    equal in every field consuming everything (with or without trailing bytes), and a second write gives the same bytes -/
theorem C06_rt_after_edits (b : Bytes) (m0 : Map) (n : Nat) (h : read b = .ok m0 n) (m : Map) (he : Edited m0 m) (junk : Bytes) :
    write m = .ok (Spec.encode m) ∧ read (Spec.encode m ++ junk) = .ok m (Spec.encode m).length := by
  have wf := C06_edits_preserve_wf m0 m (C06_read_wf b m0 n h) he
  exact ⟨C06_writer_conforms m wf, C06_reader_accepts_spec m wf junk⟩

/-- the excluded branch of `SetVersionTag`: a tag below `MinMapVersion` is written, and the written file is then refused by
    the reader (its documented refusal) -/
theorem C06_bad_tag_refused (m : Map) (wf : Spec.WF m) (v : Nat) (hv : v < minMapVersion) :
    ∃ out, write (setVersionTag m v) = .ok out ∧ ∃ e, read out = .err e := by
  obtain ⟨k, hk, hw⟩ := wf.width
  have hv32 : v < W32 := Nat.lt_trans hv (by decide)
  refine ⟨_, write_eq (m := setVersionTag m v) (fits_of_wf wf : fits m = true) hk hw, .format, outcome_of_err ?_⟩
  -- `ReadMapBeginning` reads the header and refuses the tag
  unfold pMap pBeginning fileOf beginOf
  apply bind_err
  simp only [List.append_assoc]
  rw [bind_step (pHeader_eq_ok (hd := ⟨v, if m.savedGame then 1 else 0, k, m.height, m.sources.length⟩).mpr
    ⟨⟨hv32, (flagWord _).1, Nat.lt_trans hk (by decide), wf.heightLt, wf.nsrc⟩, by simp only [List.append_assoc]; rfl⟩)]
  exact bind_guard_false (decide_eq_false (Nat.not_le.mpr hv)) _ _

/-- the map part of C20: a container with more than 2^32 − 1 elements (tileset sources, a tileset or group name, mappings,
    terrain types, tile groups) makes `Map::Write` fail instead of writing a wrapped size -/
theorem C06_writer_refuses_oversize (m : Map) (h : fits m = false) : ∃ e, write m = .error e := by
  unfold write
  split
  · exact ⟨_, rfl⟩
  · rw [h]; exact ⟨_, rfl⟩

/-! ## non-vacuity -/

def sampleMap : Map :=
  { versionTag := 0x1011, savedGame := true, width := 2, height := 1, tiles := [0x12345678, 7], clip := zeros 16,
    sources := [⟨[119, 101, 108, 108, 48, 48, 48, 49], 40⟩, ⟨[], 0⟩, ⟨[120], 0⟩], mappings := [zeros 8], terrains := [],
    groups := [⟨[114, 111, 99, 107], 1, 2, [5, 6]⟩, ⟨[], 0, 7, []⟩] }

def patchAt (bs : Bytes) (off : Nat) (w : Bytes) : Bytes := bs.take off ++ w ++ bs.drop (off + w.length)

/-- a file whose saved-game word is 0x100 and whose undocumented word (40 bytes before the end: two groups of 24 and 12
    bytes follow it) is 99: accepted, and re-written normalised -/
def sampleFile : Bytes :=
  patchAt (patchAt (Spec.encode sampleMap) 4 (encU32 0x100)) ((Spec.encode sampleMap).length - 40) (encU32 99)

example : read sampleFile = .ok sampleMap sampleFile.length := by decide +kernel
example : sampleFile ≠ Spec.encode sampleMap := by decide +kernel
example : (write sampleMap).toOption = some (Spec.encode sampleMap) := by decide +kernel
example : read (Spec.encode sampleMap ++ [9, 9]) = .ok sampleMap (Spec.encode sampleMap).length := by decide +kernel
example : setCellType sampleMap 21 1 0 = .ok (.ok { sampleMap with tiles := [0x12345678, 21] }) := rfl
example : (trimTilesetSources sampleMap).sources = [⟨[119, 101, 108, 108, 48, 48, 48, 49], 40⟩] := by decide +kernel
example : ∃ e, read ((write (setVersionTag sampleMap 0x100F)).toOption.getD []) = .err e := ⟨.format, by decide +kernel⟩

end Op2.Props.C06
