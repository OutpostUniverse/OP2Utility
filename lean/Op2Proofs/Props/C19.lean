import Op2Proofs.Gen.Tactics
import Op2Proofs.SortLemmas
import Op2Proofs.Path.Laws
import Op2Proofs.Path.Ext
import Op2Model.Path
import Op2Model.Bits
import Op2Model.Gen.Formulas
/-!
# C19 — ordering, path-equality and bit helpers obey the laws their callers assume

All string theorems are for *all* byte strings, no length bound.
-/
namespace Op2.Props.C19
open Op2 Op2.Str

/-! ## (1) "comes before" is a strict weak ordering whose incomparability is case-insensitive equality -/

theorem C19_lt_irrefl (a : Bytes) : ltCI a a = false := ltF_irrefl lowerI a

theorem C19_lt_trans (a b c : Bytes) (h1 : ltCI a b = true) (h2 : ltCI b c = true) : ltCI a c = true :=
  ltF_trans lowerI a b c h1 h2

theorem C19_incomparable_iff_equal_ignoring_case (a b : Bytes) :
    (ltCI a b = false ∧ ltCI b a = false) ↔ eqCI a b = true := incomp_iff_eqF lowerI a b

theorem C19_incomparability_trans (a b c : Bytes)
    (h1 : ltCI a b = false ∧ ltCI b a = false) (h2 : ltCI b c = false ∧ ltCI c b = false) :
    ltCI a c = false ∧ ltCI c a = false := incomp_trans lowerI a b c h1 h2

/-! ## (2) sorting is deterministic up to equal names; adjacent-duplicate detection is complete -/

/-- whatever `std::sort` returns (some weakly sorted permutation), on input without
    case-insensitively equal names it is *the* sorted arrangement — the same for every input order -/
theorem C19_sort_deterministic {α : Type} (key : α → Bytes) (l₁ l₂ s₁ s₂ : List α)
    (hperm : l₁.Perm l₂) (hnodup : NoDupCI key l₁)
    (p₁ : s₁.Perm l₁) (p₂ : s₂.Perm l₂) (hs₁ : SortedW key s₁) (hs₂ : SortedW key s₂) : s₁ = s₂ := by
  rw [sorted_perm_eq_sortCI key p₁ hs₁ hnodup,
      sorted_perm_eq_sortCI key p₂ hs₂ (hnodup.perm key hperm)]
  exact sortCI_perm_invariant key hperm hnodup

/-- on a sorted list, the adjacent comparison finds a duplicate iff *any* two names are equal ignoring case -/
theorem C19_adjacent_duplicate_detection_complete (l : List Bytes) (hs : SortedW id l) :
    hasAdjacentDup l = true ↔ ¬ NoDupCI id l := hasAdjacentDup_iff l hs

/-- non-vacuity: a sorted list with a non-adjacent-looking duplicate ("a", "A") is detected -/
example : hasAdjacentDup [[97], [65], [98]] = true ∧ SortedW id [[97], [65], [98]] := by
  refine ⟨by decide, ?_⟩
  unfold SortedW; decide

/-! ## (3) path equality is an equivalence relation containing case-insensitive string equality -/

open Op2.Path in
theorem C19_pathEq_refl (a : Bytes) : pathsAreEqual a a = true := (pathsAreEqual_iff a a).mpr rfl

open Op2.Path in
theorem C19_pathEq_symm (a b : Bytes) (h : pathsAreEqual a b = true) : pathsAreEqual b a = true :=
  (pathsAreEqual_iff b a).mpr ((pathsAreEqual_iff a b).mp h).symm

open Op2.Path in
theorem C19_pathEq_trans (a b c : Bytes) (h1 : pathsAreEqual a b = true) (h2 : pathsAreEqual b c = true) :
    pathsAreEqual a c = true :=
  (pathsAreEqual_iff a c).mpr (((pathsAreEqual_iff a b).mp h1).trans ((pathsAreEqual_iff b c).mp h2))

open Op2.Path in
/-- path equality contains case-insensitive string equality -/
theorem C19_pathEq_contains_eqCI (a b : Bytes) (h : eqCI a b = true) : pathsAreEqual a b = true :=
  (pathsAreEqual_iff a b).mpr (pathKey_eq_of_toUpper_eq ((toUpper_eq_iff a b).mpr h))

/-! ## (4) the power-of-two test is exact for all 2^32 inputs, the logarithm for all 32 powers -/

/-- for a 32-bit `v` the wrap-around in `isPow2` is idle: `v - 1` is computed as written -/
theorem isPow2_eq (v : Nat) (hv : v < W32) : Bits.isPow2 v = (v != 0 && v &&& (v - 1) == 0) := by
  unfold Bits.isPow2
  by_cases h0 : v = 0
  · subst h0; rfl
  · have e : u32 (W32 + v - 1) = v - 1 := by unfold u32 W32 at *; omega
    rw [e]

theorem C19_isPow2_exact (v : Nat) (hv : v < W32) : Bits.isPow2 v = true ↔ ∃ k, k < 32 ∧ v = 2 ^ k := by
  rw [isPow2_eq v hv, Bool.and_eq_true, bne_iff_ne, beq_iff_eq, Nat.ne_zero_and_sub_one_eq_zero_iff_isPowerOfTwo]
  constructor
  · rintro ⟨k, rfl⟩
    exact ⟨k, (Nat.pow_lt_pow_iff_right (by decide : 1 < 2)).mp hv, rfl⟩
  · rintro ⟨k, _, hk⟩
    exact ⟨k, hk⟩

theorem C19_log2_exact : ∀ k, k < 32 → Bits.log2OfPow2 (2 ^ k) = k := by decide

/-! ## bridging lemmas: the formulas translated from the current C++ are the model's -/

open Op2.Gen.Formulas in
theorem gen_Log2OfPowerOf2_powers : gen_Log2OfPowerOf2_translated = true →
    ∀ k : Nat, k < 32 → gen_Log2OfPowerOf2 ((2 : Int) ^ k) = k := by decide

open Op2.Gen.Formulas in
/-- the translated `IsPowerOf2` accepts the 32 powers of two … -/
theorem gen_IsPowerOf2_powers : gen_IsPowerOf2_translated = true →
    ∀ k : Nat, k < 32 → gen_IsPowerOf2 ((2 : Int) ^ k) = 1 := by decide

open Op2.Gen.Formulas Op2.GenTactics in
/-- … and agrees with the model on every 32-bit value -/
theorem gen_IsPowerOf2_eq (v : Nat) (hv : v < W32) : gen_IsPowerOf2_translated = true →
    gen_IsPowerOf2 (v : Int) = if Bits.isPow2 v then 1 else 0 := by
  gen_bridge =>
  rw [isPow2_eq v hv]
  unfold gen_IsPowerOf2 castU
  by_cases h0 : v = 0
  · subst h0; simp
  · have e1 : ((v : Int) - (1 : Int) % 2 ^ 32) % 2 ^ 32 = ((v - 1 : Nat) : Int) := by
      unfold W32 at hv; omega
    rw [e1]
    by_cases hz : v &&& (v - 1) = 0 <;> simp [h0, hz]

/-! ## (5) path laws: leading `./`, join, split/re-join, extension replacement

Side conditions are stated on the bytes.  "relative" is `p.head? ≠ some sep` (`Op2.Path.Rel`), which is
exactly "no root component" (`Op2.Path.hasRootComponent_eq_false_iff`); a "plain name" is non-empty and
free of `/` (`Op2.Path.Plain`). -/

open Op2.Path in
/-- (a) path equality ignores a leading `./` on *every* relative path (the empty path included) -/
theorem C19_pathEq_ignores_leading_dot_slash (p : Bytes) (hrel : p.head? ≠ some sep) :
    pathsAreEqual ([dot, sep] ++ p) p = true := pathsAreEqual_dotslash p hrel

open Op2.Path in
/-- (b) joining a relative directory (any relative string: empty, trailing or doubled slashes, `.`/`..`
    elements) with a plain name and taking the file name back returns that name -/
theorem C19_filename_of_join (d n : Bytes) (hd : d.head? ≠ some sep) (hn : n ≠ [] ∧ sep ∉ n) :
    ∃ r, xAppend d n = .ok r ∧ getFilename r = n :=
  ⟨_, xAppend_rel_plain d n hd hn, filename_joinT_snoc _ n (toks_append_plain d n hn)⟩

open Op2.Path in
/-- (c) splitting a relative path (trailing slash allowed, empty allowed) into directory and file name
    and re-joining succeeds and gives an equal path -/
theorem C19_split_rejoin (p : Bytes) (hrel : p.head? ≠ some sep) :
    ∃ r, xAppend (getDirectory p) (getFilename p) = .ok r ∧ pathsAreEqual r p = true := by
  have hpl := elems_rel_plain p hrel
  exact ⟨_, rejoin_rel p hrel,
    pathsAreEqual_of_elems_eq _ p (joinT_rel _ hpl) hrel (elems_joinT _ hpl)⟩

open Op2.Path in
/-- (d) for *every* path `f` — with directories, root name, trailing slash, empty: whatever precedes it,
    the replaced extension is matched in any letter case -/
theorem C19_change_extension_matches_every_path (f s e e' : Bytes)
    (hs : s ≠ [] ∧ dot ∉ s ∧ sep ∉ s) (he : e = s ∨ e = dot :: s) (hcase : eqCI e e' = true) :
    extensionMatches (changeFileExtension f e) e' = true :=
  chext_matches f e e' ((isExt_iff e).mpr ⟨s, hs.1, hs.2.1, hs.2.2, he⟩)
    ((toUpper_eq_iff e e').mpr hcase).symm

open Op2.Path in
/-- (d) replacing the extension of a separator-free name by an extension `e` (= `s` or `"." ++ s`, `s`
    non-empty and free of `.` and `/`) makes it match `e` in any letter case -/
theorem C19_change_extension_matches (f s e e' : Bytes) (hf : sep ∉ f)
    (hs : s ≠ [] ∧ dot ∉ s ∧ sep ∉ s) (he : e = s ∨ e = dot :: s) (hcase : eqCI e e' = true) :
    extensionMatches (changeFileExtension f e) e' = true :=
  C19_change_extension_matches_every_path f s e e' hs he hcase

open Op2.Path in
/-- (d) with "case variant" read as equal upper-casings -/
theorem C19_change_extension_matches_upper (f e e' : Bytes) (hf : sep ∉ f) (he : IsExt e)
    (hcase : toUpper e' = toUpper e) : extensionMatches (changeFileExtension f e) e' = true :=
  chext_matches f e e' he hcase

open Op2.Path in
/-- the side condition of (a)–(c) in the library's own terms: a path has no root component
    (`XFile::HasRootComponent` is false) exactly when it does not start with a separator -/
theorem C19_relative_iff_no_root_component (p : Bytes) :
    hasRootComponent p = false ↔ p.head? ≠ some sep := hasRootComponent_eq_false_iff p

open Op2.Path in
/-- (a) is sharp: a leading `./` is ignored on relative paths and on no other path -/
theorem C19_pathEq_leading_dot_slash_iff (p : Bytes) :
    pathsAreEqual ([dot, sep] ++ p) p = true ↔ p.head? ≠ some sep := pathsAreEqual_dotslash_iff p

open Op2.Path in
/-- (b) with the directory's side condition phrased through `HasRootComponent` -/
theorem C19_filename_of_join_no_root (d n : Bytes) (hd : hasRootComponent d = false)
    (hn : n ≠ [] ∧ sep ∉ n) : ∃ r, xAppend d n = .ok r ∧ getFilename r = n :=
  C19_filename_of_join d n ((hasRootComponent_eq_false_iff d).mp hd) hn

open Op2.Path in
/-- (c) with the side condition phrased through `HasRootComponent` -/
theorem C19_split_rejoin_no_root (p : Bytes) (hp : hasRootComponent p = false) :
    ∃ r, xAppend (getDirectory p) (getFilename p) = .ok r ∧ pathsAreEqual r p = true :=
  C19_split_rejoin p ((hasRootComponent_eq_false_iff p).mp hp)

open Op2.Path in
/-- what `ChangeFileExtension` then reports as the extension: `"." ++ s` -/
theorem C19_extension_after_change (f s e : Bytes)
    (hs : s ≠ [] ∧ dot ∉ s ∧ sep ∉ s) (he : e = s ∨ e = dot :: s) :
    getFileExtension (changeFileExtension f e) = dot :: s := by
  rw [← extBody_of hs.1 hs.2.1 he]
  exact extension_replaceExtension f e ((isExt_iff e).mpr ⟨s, hs.1, hs.2.1, hs.2.2, he⟩)

/-! ### the unrestricted statements of (b) and (c) are false (of the model and of the library alike:
`path.fnappend 2f2f 62` answers `//b`, `path.rejoin 2f` answers `err` on both sides) -/

open Op2.Path in
/-- (b) without "relative": every directory `d` -/
def C19_filename_of_join_full : Prop :=
  ∀ d n : Bytes, n ≠ [] ∧ sep ∉ n → ∃ r, xAppend d n = .ok r ∧ getFilename r = n

open Op2.Path in
/-- `"//"` joined with `"b"` is the root name `"//b"`, whose file name is `"//b"` -/
theorem C19_filename_of_join_full_fails : ¬ C19_filename_of_join_full := by
  intro h
  obtain ⟨r, h1, h2⟩ := h [sep, sep] [98] (by decide)
  have e : xAppend [sep, sep] [98] = .ok [sep, sep, 98] := rfl
  rw [e] at h1
  cases h1
  revert h2; decide

open Op2.Path in
/-- (c) without "relative": every path `p` -/
def C19_split_rejoin_full : Prop :=
  ∀ p : Bytes, ∃ r, xAppend (getDirectory p) (getFilename p) = .ok r ∧ pathsAreEqual r p = true

open Op2.Path in
/-- the file name of `"/"` is `"/"`, which `Append` refuses as a second argument -/
theorem C19_split_rejoin_full_fails : ¬ C19_split_rejoin_full := by
  intro h
  obtain ⟨r, h1, _⟩ := h [sep]
  have e : xAppend (getDirectory [sep]) (getFilename [sep]) = .error .refused := rfl
  rw [e] at h1
  cases h1

/-! ### non-vacuity and sharpness of the side conditions ("a" = 97, "B" = 66, "x" = 120) -/

open Op2.Path in
/-- hypotheses of (a)–(d) are satisfiable: `"d/a"`, (`"d/"`, `"a.b"`), `"d//a/"`, (`"a.b"`, `".x"`, `".X"`) -/
example : ([100, sep, 97] : Bytes).head? ≠ some sep
    ∧ (([100, sep] : Bytes).head? ≠ some sep ∧ ([97, dot, 66] : Bytes) ≠ [] ∧ sep ∉ ([97, dot, 66] : Bytes))
    ∧ ([100, sep, sep, 97, sep] : Bytes).head? ≠ some sep
    ∧ (sep ∉ ([97, dot, 66] : Bytes) ∧ IsExt [dot, 120] ∧ eqCI [dot, 120] [dot, 88] = true) := by decide

open Op2.Path in
/-- the conclusions on these points, computed: `./d/a` = `d/a`; `"./"` = `""` -/
example : pathsAreEqual [dot, sep, 100, sep, 97] [100, sep, 97] = true
    ∧ pathsAreEqual [dot, sep] [] = true
    ∧ (xAppend [100, sep] [97, dot, 66]).toOption.map getFilename = some [97, dot, 66]
    ∧ extensionMatches (changeFileExtension [97, dot, 66] [dot, 120]) [dot, 88] = true := by decide

open Op2.Path in
/-- sharpness: (a) fails on `"/a"`; (b) fails for the empty name; (c) re-joining `"/"` is refused;
    (d) fails for `e = "x.y"` (the new extension is `.y`) -/
example : pathsAreEqual ([dot, sep] ++ [sep, 97]) [sep, 97] = false
    ∧ (xAppend [97] []).toOption.map getFilename = some [97]
    ∧ (xAppend (getDirectory [sep]) (getFilename [sep])).toOption = none
    ∧ extensionMatches (changeFileExtension [97] [120, dot, 121]) [120, dot, 121] = false := by decide

end Op2.Props.C19
