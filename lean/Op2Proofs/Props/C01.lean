import Op2Model.Gen.Constants
import Op2Model.Gen.Layout
import Op2Proofs.Vol.Refuse
import Op2Proofs.Vol.ReadRef
import Op2Proofs.Vol.Lookup
/-!
# C01 — VOL pack → reopen → extract is the identity on file sets; refusals happen before anything is modified

`create out files` is `VolFile::CreateArchive(out, files)` (the archive bytes or a refusal), `createFs` its effect on the
file system, `Vol.open` the constructor `VolFile(path)`, `View.name/size/kind/stream/extract/index` the calls on the opened
archive.  `sortCI nameOf files` is the input list in the library's order (case-insensitive on the final path component).
-/
namespace Op2.Vol
open Op2 Op2.Str

theorem C01_gen_namePad : Gen.Constants.vol_namePad_scraped = true → Gen.Constants.vol_namePad = namePad := by decide
theorem C01_gen_indexPad : Gen.Constants.vol_indexPad_scraped = true → Gen.Constants.vol_indexPad = indexPad := by decide
theorem C01_gen_blockPad : Gen.Constants.vol_blockPad_scraped = true → Gen.Constants.vol_blockPad = blockPad := by decide
theorem C01_gen_firstBlockExtra : Gen.Constants.vol_firstBlockExtra_scraped = true → Gen.Constants.vol_firstBlockExtra = firstBlockExtra := by decide
theorem C01_gen_headerExtra : Gen.Constants.vol_headerExtra_scraped = true → Gen.Constants.vol_headerExtra = headerExtra := by decide
theorem C01_gen_entrySize : Gen.Layout.size_VolIndexEntry = entrySize := by decide
theorem C01_gen_secSize : Gen.Layout.size_VolSectionHeader = secSize := by decide
theorem C01_gen_lenMask : Gen.Layout.mask_VolSectionHeader_length = lenMask := by decide
theorem C01_gen_padFlag : Gen.Layout.mask_VolSectionHeader_padding = padFlag := by decide
theorem C01_gen_uncompressed : Gen.Layout.vol_Uncompressed = uncompressed := by decide
/-- the copy loop is correct for every positive chunk size, so the constant only has to be positive -/
theorem C01_gen_copyChunk : 0 < Gen.Layout.DefaultCopyChunkSize := by decide

/-- **the result does not depend on the order in which the inputs are listed** — the archive bytes, or the refusal, are
    the same for every permutation (any `std::sort` result on duplicate-free input is the unique sorted arrangement; with
    duplicates every arrangement is refused) -/
theorem C01_perm (out : Bytes) (files files' : List InFile) (hp : files.Perm files') :
    create out files = create out files' := by
  by_cases hn : NoDupCI nameOf files
  · rw [create_eq, create_eq, plan_congr out files files' (sortCI_perm_invariant nameOf hp hn)]
  · rw [create_eq, create_eq, plan_dup_refused out files hn,
      plan_dup_refused out files' fun h => hn (h.perm nameOf hp.symm)]

/-- **two inputs whose names are equal ignoring case: refused, and no file is created or modified** (wherever the two
    stand in the list, whatever their directories) -/
theorem C01_refuse_dup (out : Bytes) (files : List InFile) (fs : Fs) (h : ¬ NoDupCI nameOf files) :
    createFs out files fs = (fs, .error .refused) := by
  refine createFs_refused out files fs fun b hb => ?_
  rw [create, plan_dup_refused out files h] at hb
  cases hb

/-- **the output path names one of the inputs (`PathsAreEqual`: same spelling up to letter case and leading `./`):
    refused, and no file is created or modified** -/
theorem C01_refuse_self (out : Bytes) (files : List InFile) (fs : Fs)
    (h : ∃ f ∈ files, Path.pathsAreEqual out f.path = true) : createFs out files fs = (fs, .error .refused) := by
  refine createFs_refused out files fs fun b hb => ?_
  obtain ⟨f, hf, he⟩ := h
  have := List.any_eq_false.mp (create_ok_basic hb).2.2.1 f (mem_sortCI.mpr hf)
  exact this he

/-- every failure of `CreateArchive` is a refusal that leaves the file system as it was -/
theorem C01_failure_is_atomic (out : Bytes) (files : List InFile) (fs : Fs) (e : Err)
    (h : (createFs out files fs).2 = .error e) : createFs out files fs = (fs, .error .refused) := by
  refine createFs_refused out files fs fun b hb => ?_
  rw [createFs, hb] at h
  cases h

/-- the members are the inputs, each exactly once, in ascending case-insensitive order of their final path component -/
theorem C01_order (files : List InFile) (hn : NoDupCI nameOf files) :
    (sortCI nameOf files).Perm files ∧ SortedS nameOf (sortCI nameOf files) :=
  ⟨sortCI_perm nameOf files, sortCI_sortedS nameOf hn⟩

/-- **pack → reopen → extract is the identity** (∀ output path, ∀ file lists that fit: names pairwise distinct ignoring
    case, members below 2^31 bytes, block offsets below 2^32, output not among the inputs).  The archive is created; opening
    it lists exactly one member per input, in the sorted order, named by the final path component, with the exact size and
    the `uncompressed` kind; the member stream and the extracted file are the input bytes.
    `hn`: names are NUL- and 0xFF-free; `hcap`: the header is below the harness' 1 GiB allocation cap. -/
theorem C01_roundtrip (out : Bytes) (files : List InFile) (h : Fits out files)
    (hn : ∀ f ∈ files, NameOk (nameOf f))
    (hcap : Spec.headerLen (descOf (sortCI nameOf files)) ≤ allocCap) :
    ∃ b v, create out files = .ok b ∧ Vol.open b = .ok v ∧ v.count = files.length ∧
      v.names = (sortCI nameOf files).map nameOf ∧
      ∀ (i : Nat) (hi : i < (sortCI nameOf files).length),
        v.name i = .ok (nameOf (sortCI nameOf files)[i]) ∧
        v.size i = .ok (sortCI nameOf files)[i].content.len ∧
        v.kind i = .ok uncompressed ∧
        v.stream i = .ok (sortCI nameOf files)[i].content.toBytes ∧
        v.extract i = .ok (some (sortCI nameOf files)[i].content.toBytes) := by
  have hwf := Strict.wf (descOf_strict out files h.good hn)
  refine ⟨_, _, create_of_good out files h.good, open_refEncode_capped _ hwf hcap, ?_, ?_, fun i hi => ?_⟩
  · exact (List.length_map _).trans (length_sortCI nameOf files)
  · exact descOf_names _
  · have hi' : i < (descOf (sortCI nameOf files)).members.length := by simpa only [descOf, List.length_map] using hi
    obtain ⟨h1, h2, h3, h4⟩ := refView_members _ hwf i hi'
    have em : (descOf (sortCI nameOf files)).members[i] = memberOf (sortCI nameOf files)[i] := by
      simp only [descOf, List.getElem_map]
    rw [em] at h1 h2 h3 h4
    exact ⟨h1, h2, h3, h4, extract_of_kind_stream _ i _ h3 h4⟩

/-- **looking a member up by name succeeds in any letter case** (`GetIndex`, `Contains`, hence `OpenStream(name)` and
    `ExtractFile(name, …)`): on the reopened archive, the name of member `i` with an arbitrary subset of its letters
    flipped is found at index `i`.  `hp`: names are what file names can be (non-empty, no `/`, not `.`). -/
theorem C01_lookup_any_case (out : Bytes) (files : List InFile) (h : Fits out files)
    (hn : ∀ f ∈ files, NameOk (nameOf f)) (hp : ∀ f ∈ files, PlainName (nameOf f))
    (hcap : Spec.headerLen (descOf (sortCI nameOf files)) ≤ allocCap)
    (b : Bytes) (v : View) (hb : create out files = .ok b) (hv : Vol.open b = .ok v)
    (i : Nat) (hi : i < (sortCI nameOf files).length) (mask : List Bool) :
    v.index (Spec.anyCase mask (nameOf (sortCI nameOf files)[i])) = .ok i ∧
    v.contains (Spec.anyCase mask (nameOf (sortCI nameOf files)[i])) = .ok true := by
  have hwf := Strict.wf (descOf_strict out files h.good hn)
  cases Except.ok.inj ((create_of_good out files h.good).symm.trans hb)
  cases Except.ok.inj ((open_refEncode_capped _ hwf hcap).symm.trans hv)
  have hnames : (refView (descOf (sortCI nameOf files))).names = (sortCI nameOf files).map nameOf := descOf_names _
  have hpl : ∀ n ∈ (refView (descOf (sortCI nameOf files))).names, PlainName n := by
    intro n hn'
    rw [hnames] at hn'
    obtain ⟨f, hf, rfl⟩ := List.mem_map.mp hn'
    exact hp f (mem_sortCI.mp hf)
  have hnd : NoDupCI id (refView (descOf (sortCI nameOf files))).names := by
    rw [hnames, nodup_names_iff]
    exact (noDupCI_sortCI nameOf).mpr h.nodup
  have := index_any_case _ (by simp only [refView, List.length_map]) hpl hnd i
    (by rw [hnames]; simpa only [List.length_map] using hi) mask
  simpa only [hnames, List.getElem_map] using this

/-! ## non-vacuity: three files of sizes 0, 5 and 131 073 (one byte more than the copy chunk), listed out of order -/
def exFiles : List InFile :=
  [⟨[100, 47, 98, 46, 116], .bytes [1, 2, 3, 4, 5]⟩, ⟨[67], .zeros 131073⟩, ⟨[46, 47, 97], .bytes []⟩]

example : (sortCI nameOf exFiles).map nameOf = [[97], [98, 46, 116], [67]] := by decide
example : ∃ p, plan [111, 46, 118] exFiles = .ok p ∧ planLength p = 131196 := ⟨_, rfl, by decide⟩
example : createFs [111] [⟨[97], .bytes [1]⟩, ⟨[100, 47, 65], .bytes [2]⟩] [] = ([], .error .refused) :=
  C01_refuse_dup _ _ _ (by unfold NoDupCI; decide)
example : createFs [46, 47, 120] [⟨[88], .bytes [1]⟩] [([88], [1])] = ([([88], [1])], .error .refused) :=
  C01_refuse_self _ _ _ ⟨⟨[88], .bytes [1]⟩, by simp, by decide⟩

end Op2.Vol
