import Op2Proofs.Tileset.Write
/-!
# C11 (part bmp) — the bitmap and tileset loaders are safe on arbitrary bytes; what they return is safe to use

Memory errors and undefined arithmetic are explicit values of the model (`Out.fault`): `std::abs(INT32_MIN)`,
`height *= -1` on `INT32_MIN`, a row pointer / iterator range outside the pixel vector, an over-wide shift.  The theorems
say that no byte string reaches one, neither while loading nor in any public operation on a returned object.
Termination is by construction: every model function is total and the row loops run `|height|` times.
-/
namespace Op2.Props.C11
open Op2 Op2.Bmp Op2.Tileset Op2.Parser

/-- some public operation on the object ran into an undefined operation (`SwapRedAndBlue`, `GetScanLineOrientation`
    are total functions of the model and cannot) -/
def anyFault (f : Bmp) : Bool :=
  (validate f).isFault || (verifyPalette f).isFault ||
  (verifyPixelSize f.ih.bitCount f.ih.width f.ih.height f.pixels.length).isFault ||
  (write f).isFault || (writeFile f).isFault || (absoluteHeight f).isFault || (invert f).isFault ||
  (validateTs f).isFault || (writeCustom f).isFault

theorem loaded_no_fault {f : Bmp} (L : Loaded f) : anyFault f = false := by
  unfold anyFault
  rw [L.validate_ok, L.verifyPalette_ok, L.verifyPixelSize_ok, L.write_ok, L.absoluteHeight_ok, L.invert_ok]
  have h1 : (writeFile f).isFault = false := by rcases L.writeFile_ok with e | e <;> rw [e] <;> rfl
  rw [h1, validateTs_isFault, writeCustom_isFault L]; rfl

/-- `ReadIndexed` on arbitrary bytes: an object or an ordinary error, never an undefined operation -/
theorem C11_no_fault_load_bmp (b : Bytes) : (Bmp.read b).isFault = false :=
  runOut_isFault_of_yields (yields_bmp b.length) (fun _ _ ⟨f, e, _⟩ => ⟨f, e⟩) b

/-- `ReadTileset` (both formats) on arbitrary bytes likewise -/
theorem C11_no_fault_load_tileset (b : Bytes) (hb : b.length < W64) : (Tileset.read b).isFault = false := by
  rw [read_eq b hb]
  split
  · split
    · exact readCustom_isFault b
    · have := C11_no_fault_load_bmp b
      cases h : Bmp.read b with
      | fault g => rw [h] at this; cases this
      | err e => rfl
      | ok f => simp only; rcases validateTs_cases f with e | e <;> rw [e] <;> rfl
  · rfl

/-- every public operation on a bitmap `ReadIndexed` returned is free of undefined operations -/
theorem C11_no_fault_use_bmp (b : Bytes) (f : Bmp) (h : Bmp.read b = .ok f) : anyFault f = false :=
  loaded_no_fault (Bmp.read_loaded h)

/-- … and on a bitmap `ReadTileset` returned from either format -/
theorem C11_no_fault_use_tileset (b : Bytes) (f : Bmp) (hb : b.length < W64) (h : Tileset.read b = .ok f) : anyFault f = false :=
  loaded_no_fault (Tileset.read_loaded hb h)

/-- the mutating operations return objects with the same guarantees as a loaded object, on which in turn no public
    operation reaches an undefined operation (the step from which safety of a sequence of operations follows by induction) -/
theorem C11_use_closed (f : Bmp) (L : Loaded f) :
    (∃ g, invert f = .ok g ∧ Loaded g) ∧ Loaded (swapRedAndBlue f) ∧ anyFault f = false :=
  ⟨⟨_, L.invert_ok, L.flipped⟩, L.swapped, loaded_no_fault L⟩

/-- an accepted bitmap file: every proper prefix that cuts into the bytes the reader consumed (headers, palette, pixel
    section) is refused with an ordinary error.  For a file without trailing bytes that is every proper prefix. -/
theorem C11_prefix_strict_bmp (b : Bytes) (f : Bmp) (h : Bmp.read b = .ok f) :
    54 + 4 * f.palette.length + f.pixels.length ≤ b.length ∧
    ∀ k, k < 54 + 4 * f.palette.length + f.pixels.length → ∃ e, Bmp.read (b.take k) = .err e := by
  obtain ⟨L, hl, rest, rfl⟩ := read_eq_ok.mp h
  rw [← encode_length L.bhRange.sig]
  refine ⟨by simp, fun k hk => ?_⟩
  have hkl : k ≤ (encode f ++ rest).length := by rw [List.length_append]; omega
  -- the prefix is read with the stream length `k`, which only makes the comparison `size < length` easier to pass
  obtain ⟨e, he⟩ := (local_bmp k).prefix_refused (reads_bmp L k (Nat.le_trans hkl hl) rest) k (by simpa using hk)
  refine ⟨e, ?_⟩
  rw [Bmp.read, List.length_take, Nat.min_eq_left hkl]
  exact runOut_of_err he

/-- number of bytes `ReadTileset` consumed for an accepted file (1096: see `Tileset.readCustom_length`) -/
def tilesetConsumed (b : Bytes) (f : Bmp) : Nat :=
  if b.take 4 = tagPBMP then 1096 + f.pixels.length else 54 + 4 * f.palette.length + f.pixels.length

/-- the same for the format-detecting loader, whichever format the file is in -/
theorem C11_prefix_strict_tileset (b : Bytes) (f : Bmp) (hb : b.length < W64) (h : Tileset.read b = .ok f) :
    tilesetConsumed b f ≤ b.length ∧ ∀ k, k < tilesetConsumed b f → ∃ e, Tileset.read (b.take k) = .err e := by
  unfold tilesetConsumed
  obtain ⟨_, ⟨ht, hc⟩ | ⟨ht, hr, _⟩⟩ := (Tileset.read_eq_ok hb).mp h
  · have hl := readCustom_length hc
    rw [if_pos ht]
    exact ⟨hl, fun k hk => read_take_err hb (fun _ => readCustom_prefix hc k hk) (fun hn => (hn ht).elim)⟩
  · obtain ⟨hle, hpre⟩ := C11_prefix_strict_bmp b f hr
    rw [if_neg ht]
    exact ⟨hle, fun k hk => read_take_err hb (fun he => (ht he).elim) (fun _ => hpre k hk)⟩

/-- a 1-bit 1×1 bitmap file (66 bytes, nothing trailing): accepted, so the theorems above speak about it -/
def sample : Bytes :=
  [0x42, 0x4D, 0x42, 0, 0, 0, 0, 0, 0, 0, 0x3E, 0, 0, 0,
   0x28, 0, 0, 0, 1, 0, 0, 0, 1, 0, 0, 0, 1, 0, 1, 0, 0, 0, 0, 0, 0, 0, 0, 0, 0, 0, 0, 0, 0, 0, 0, 0, 0, 0, 0, 0, 0, 0, 0, 0,
   0, 0, 0, 0, 0xFF, 0xFF, 0xFF, 0,
   0x80, 0, 0, 0]

example : (Bmp.read sample).isOk = true := by decide
example : ∃ f, Bmp.read sample = .ok f ∧ 54 + 4 * f.palette.length + f.pixels.length = sample.length := ⟨_, rfl, by decide⟩
/-- the hostile header of D16 (height −2^31, width 0) is refused by the model of the repaired reader -/
example : (Bmp.read ([0x42, 0x4D, 0x3E, 0, 0, 0, 0, 0, 0, 0, 0x3E, 0, 0, 0,
   0x28, 0, 0, 0, 0, 0, 0, 0, 0, 0, 0, 0x80, 1, 0, 1, 0, 0, 0, 0, 0, 0, 0, 0, 0, 0, 0, 0, 0, 0, 0, 0, 0, 0, 0, 0, 0, 0, 0, 0, 0,
   0, 0, 0, 0, 0xFF, 0xFF, 0xFF, 0])).isOk = false := by decide

end Op2.Props.C11
