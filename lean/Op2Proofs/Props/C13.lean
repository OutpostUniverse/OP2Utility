import Op2Proofs.Stream.SysEquiv
import Op2Model.Vol
import Op2Model.Clm
/-!
# C13 — slices are confined, independent, and equivalent across stream backends
-/
namespace Op2.Props.C13
open Op2 Op2.Stream

variable {σ : Type} {W : Wrapped σ} {ab : σ → RSpec} {G : σ → Prop}

/-! ## a slice `[s, s+n)` exposes exactly those bytes as positions `0..n` -/

/-- creation succeeds iff the window lies inside the parent (in ℕ — the wrap tests in the code are exact),
    and then the slice *is* the abstract reader over that window, at position 0 -/
theorem C13_slice_window (ok : WrappedOK W ab G) (w : σ) (hw : G w) (start len : Nat)
    (hs : start < W64) (hl : len < W64) :
    (start + len ≤ (ab w).data.length →
      ∃ s, Slice.create W w start len = .ok s ∧ sliceGood G ab s ∧
        sliceAbs ab s = { data := ((ab w).data.drop start).take len, pos := 0 }) ∧
    (¬ start + len ≤ (ab w).data.length → Slice.create W w start len = .error .bounds) :=
  ⟨Slice.create_ok ok w hw start len, Slice.create_err ok w hw start len hs⟩

/-- … however deeply nested over a file: level `n+1` exposes the requested window of level `n` -/
theorem C13_nested_window (n : Nat) (w : SliceN n) (hw : goodN n w) (start len : Nat)
    (hfit : start + len ≤ (absN n w).data.length) :
    ∃ s : SliceN (n + 1), Slice.create (wrappedN n) w start len = .ok s ∧ goodN (n + 1) s ∧
      absN (n + 1) s = { data := ((absN n w).data.drop start).take len, pos := 0 } :=
  Slice.create_ok (wrappedN_ok n) w hw start len hfit

/-- `Slice(start, len)` on an existing slice: contained ⇒ the sub-window; not contained (including through
    wrap-around) ⇒ error.  The parent is a value here, so "parent untouched" is the statement that the
    operation has no other result. -/
theorem C13_subslice (ok : WrappedOK W ab G) (s : Slice σ) (hs : sliceGood G ab s) (start len : Nat)
    (h1 : start < W64) (h2 : len < W64) :
    (start + len ≤ s.len →
      ∃ t, Slice.slice2 W s start len = .ok t ∧ sliceGood G ab t ∧
        sliceAbs ab t = { data := ((sliceAbs ab s).data.drop start).take len, pos := 0 }) ∧
    (¬ start + len ≤ s.len → Slice.slice2 W s start len = .error .bounds) :=
  ⟨Slice.slice2_ok ok s hs start len, Slice.slice2_err W s start len h1⟩

/-- the form that slices at the current position advances the parent by `n` exactly when it succeeds -/
theorem C13_slice_here_memory (s : MemR) (h : s.Inv) (n : Nat) (hn : n < W64) :
    (s.pos + n ≤ s.data.length →
      MemR.slice1 s n = .ok ({ data := (s.data.drop s.pos).take n, pos := 0 }, { s with pos := s.pos + n })) ∧
    (¬ s.pos + n ≤ s.data.length → MemR.slice1 s n = .error .bounds) := by
  rw [MemR.slice1_eq h hn]
  exact ⟨fun hin => if_pos hin, fun hout => if_neg hout⟩

theorem C13_memory_slice_window (s : MemR) (h : s.Inv) (start len : Nat) (hs : start < W64) (hl : len < W64) :
    (start + len ≤ s.data.length → MemR.slice2 s start len = .ok { data := (s.data.drop start).take len, pos := 0 }) ∧
    (¬ start + len ≤ s.data.length → MemR.slice2 s start len = .error .bounds) := by
  rw [MemR.slice2_eq h hs hl]
  exact ⟨fun hin => if_pos hin, fun hout => if_neg hout⟩

/-! ## backend equivalence: the same bytes behave the same in memory, in a file, in a slice of either -/

/-- every history (not only in-bounds ones) observes the same on a memory reader over `d` and on any slice
    whose window is `d`, both starting at the same position -/
theorem C13_backend_equivalence (ok : WrappedOK W ab G) (s : Slice σ) (hs : sliceGood G ab s)
    (m : MemR) (hm : m.Inv) (heq : sliceAbs ab s = m) (ops : List ROp) (ha : ∀ op ∈ ops, op.argOk) :
    runWith (Slice.step W) s ops = runWith MemR.step m ops := by
  rw [(Slice.refines ok).hist ops s hs ha, mem_refines_hist ops m hm ha, heq]

/-- in particular a slice of a file and a slice of a slice of a file -/
theorem C13_file_slice_equals_nested (n k : Nat) (s : SliceN (n + 1)) (t : SliceN (k + 1))
    (hs : goodN (n + 1) s) (ht : goodN (k + 1) t) (heq : absN (n + 1) s = absN (k + 1) t)
    (ops : List ROp) (ha : ∀ op ∈ ops, op.argOk) :
    runWith (Slice.step (wrappedN n)) s ops = runWith (Slice.step (wrappedN k)) t ops := by
  rw [(Slice.refines (wrappedN_ok n)).hist ops s hs ha, (Slice.refines (wrappedN_ok k)).hist ops t ht ha]
  exact congrArg (fun x => runWith RSpec.step x ops) heq

/-! ## independence: several live objects under every interleaving

`Sys` (`Op2Model/StreamSys.lean`) is a program's collection of live readers — a memory or file reader, slices of it,
slices of slices, copies — with requests addressed to any of them in any order (`multi …` commands of the
correspondence run execute exactly `Sys.step`).  The model holds objects as values; that the C++ objects share no
hidden cursor is what the correspondence run checks, and these theorems say what then follows for *every* history. -/

/-- a request to object `i` leaves every other live object exactly as it was (position, window, everything) -/
theorem C13_interleaving_frame (objs : Sys) (i j : Nat) (o : OOp) (hij : j ≠ i) (hj : j < objs.length) :
    (Sys.step objs i o).2[j]? = objs[j]? := Sys.step_frame objs i j o hij hj

/-- a refused slice creation leaves the parent — and every other object — untouched, and creates nothing -/
theorem C13_refused_creation_changes_nothing (objs : Sys) (i : Nat) (d : DOp)
    (h : (Sys.step objs i (.derive d)).1 = some .failed) : (Sys.step objs i (.derive d)).2 = objs :=
  Sys.step_refused_noop objs i _ (.inr (.inl h))

/-- any refused request — a read, peek or seek out of bounds, a slice creation not contained in its parent, a request to an object
    that does not exist — leaves the whole system exactly as it was (no invariant assumed, any argument) -/
theorem C13_refused_request_changes_nothing (objs : Sys) (i : Nat) (o : OOp)
    (h : (Sys.step objs i o).1 = some (.out .err) ∨ (Sys.step objs i o).1 = some .failed ∨ (Sys.step objs i o).1 = some .unsupported ∨
         (Sys.step objs i o).1 = none) : (Sys.step objs i o).2 = objs := Sys.step_refused_noop objs i o h

/-- **every interleaving**: what an object answers (bytes, results, the slices created from it) and where it ends up
    is what it would have answered and where it would have ended had its own requests been applied to it alone -/
theorem C13_interleaving_independent (h : List (Nat × OOp)) (objs : Sys) (j : Nat) (r : Rd) (hr : objs[j]? = some r) :
    projOuts j (Sys.run objs h).1 = (runObj r (projOps j h)).1.map some ∧
    (Sys.run objs h).2[j]? = some (runObj r (projOps j h)).2 := Sys.run_projection h objs j r hr

/-- … also for an object created in the middle of the history (a slice or copy made by `h1`), from then on -/
theorem C13_interleaving_independent_from_creation (h1 h2 : List (Nat × OOp)) (objs : Sys) (j : Nat) (r : Rd)
    (hr : (Sys.run objs h1).2[j]? = some r) :
    projOuts j (Sys.run (Sys.run objs h1).2 h2).1 = (runObj r (projOps j h2)).1.map some ∧
    (Sys.run objs (h1 ++ h2)).2[j]? = some (runObj r (projOps j h2)).2 := by
  rw [Sys.run_append]
  exact Sys.run_projection h2 _ j r hr

/-- two histories that agree on the requests addressed to `j` are indistinguishable to `j` -/
theorem C13_interleaving_schedule_irrelevant (h h' : List (Nat × OOp)) (objs : Sys) (j : Nat) (hj : j < objs.length)
    (hp : projOps j h = projOps j h') :
    projOuts j (Sys.run objs h).1 = projOuts j (Sys.run objs h').1 ∧ (Sys.run objs h).2[j]? = (Sys.run objs h').2[j]? := by
  obtain ⟨a1, a2⟩ := Sys.run_projection h objs j objs[j] (List.getElem?_eq_getElem hj)
  obtain ⟨b1, b2⟩ := Sys.run_projection h' objs j objs[j] (List.getElem?_eq_getElem hj)
  rw [a1, a2, b1, b2, hp]; exact ⟨rfl, rfl⟩

/-- non-vacuity: a memory reader, a slice of it and a slice-here of it, interleaved — the parent's own answers are
    those of its own three requests -/
example : let objs : Sys := [Rd.mem { data := [10, 11, 12, 13, 14, 15], pos := 0 }]
    let h : List (Nat × OOp) := [(0, .derive (.slice 1 4)), (1, .op (.read 2)), (0, .op (.read 1)), (0, .derive (.here 2)),
                                 (2, .op (.read 2)), (1, .op (.seek 0)), (0, .op (.read 4)), (0, .op (.read 3))]
    ((Sys.run objs h).2.map fun o => (o.pos, o.len)) = [(6, 6), (0, 4), (2, 2)] ∧
    (projOuts 0 (Sys.run objs h).1).length = 5 := by decide

/-! ## confinement over histories: "exactly those n bytes … and nothing else", whatever happens afterwards -/

/-- no request to an object — reads and seeks in or out of bounds, slices and copies taken from it, the slice-here form that
    advances it — changes the bytes it exposes (memory reader, file reader, file slice, slice of a file slice) -/
theorem C13_request_keeps_window (r : Rd) (o : OOp) : (r.ostep o).2.content = r.content := Rd.ostep_content r o

/-- hence under every interleaved history every object still exposes exactly the bytes it was created over -/
theorem C13_confined_under_every_history (h : List (Nat × OOp)) (objs : Sys) (j : Nat) (r : Rd) (hr : objs[j]? = some r) :
    ∃ r', (Sys.run objs h).2[j]? = some r' ∧ r'.content = r.content := Sys.run_content h objs j r hr

/-! ## every reachable object: well-formed, and a window of the root — "however deeply nested" -/

/-- start from one memory reader or one file reader over `data` (shorter than 2^64) and run ANY interleaved history of requests
    with 64-bit arguments — reads, partial reads, peeks and seeks in and out of bounds, `Slice(start,len)`, `Slice(len)` at the
    cursor, copies, of the root, of slices, of slices of slices, to any depth: every object alive afterwards satisfies its class
    invariant (cursor inside its window, window inside its parent) and exposes a contiguous window of `data` and nothing else -/
theorem C13_every_reachable_object_is_a_window (data : Bytes) (hd : data.length < W64) (h : List (Nat × OOp))
    (ha : ∀ p ∈ h, p.2.argOk) :
    (∀ r ∈ (Sys.run [Rd.mem { data := data, pos := 0 }] h).2, r.Good ∧ IsWindow r.content data) ∧
    (∀ r ∈ (Sys.run [Rd.file { data := data, pos := 0 }] h).2, r.Good ∧ IsWindow r.content data) :=
  ⟨Sys.run_rooted data h _ (Sys.rooted_init (.mem _) ⟨Nat.zero_le _, hd⟩) ha,
   Sys.run_rooted data h _ (Sys.rooted_init (.file _) ⟨Nat.zero_le _, hd⟩) ha⟩

/-- hence in every reachable system every object reports `Position() ≤ Length()`, and `Length()` is the size of the window of the
    root it exposes — whatever out-of-bounds and wrapping arguments the history threw at it -/
theorem C13_reachable_positions_in_range (data : Bytes) (hd : data.length < W64) (h : List (Nat × OOp)) (ha : ∀ p ∈ h, p.2.argOk) :
    (∀ r ∈ (Sys.run [Rd.mem { data := data, pos := 0 }] h).2, r.pos ≤ r.len ∧ r.len = r.content.length ∧ r.len ≤ data.length) ∧
    (∀ r ∈ (Sys.run [Rd.file { data := data, pos := 0 }] h).2, r.pos ≤ r.len ∧ r.len = r.content.length ∧ r.len ≤ data.length) := by
  have key : ∀ r : Rd, r.Good ∧ IsWindow r.content data → r.pos ≤ r.len ∧ r.len = r.content.length ∧ r.len ≤ data.length := by
    intro r ⟨hg, a, b, hw⟩
    obtain ⟨_, h2, h3⟩ := Rd.observables r hg
    rw [Rd.abs_content] at h2
    refine ⟨h3, h2, ?_⟩
    rw [h2, hw]; simp only [List.length_take, List.length_drop]; omega
  obtain ⟨hm, hf⟩ := C13_every_reachable_object_is_a_window data hd h ha
  exact ⟨fun r hr => key r (hm r hr), fun r hr => key r (hf r hr)⟩

/-- one derivation: the new object exposes a window of what its parent exposes, and both are well-formed afterwards -/
theorem C13_derived_object_is_a_window_of_its_parent (r : Rd) (d : DOp) (hr : r.Good) (hd : d.argOk) (n r' : Rd)
    (h : r.derive d = some (.ok (n, r'))) : n.Good ∧ r'.Good ∧ IsWindow n.content r.content :=
  Rd.derive_good r d hr hd n r' h

/-- non-vacuity: a slice of a slice of a file, taken at the cursor, then read past its end -/
example : let h : List (Nat × OOp) := [(0, .derive (.slice 2 5)), (1, .op (.read 1)), (1, .derive (.here 3)), (2, .op (.read 9)),
                                       (2, .op (.read 3)), (0, .derive .copy)]
    ((Sys.run [Rd.file { data := [10, 11, 12, 13, 14, 15, 16, 17], pos := 0 }] h).2.map fun o => (o.content, o.pos)) =
      [([10, 11, 12, 13, 14, 15, 16, 17], 0), ([12, 13, 14, 15, 16], 4), ([13, 14, 15], 3), ([10, 11, 12, 13, 14, 15, 16, 17], 0)] := by
  decide

/-- on every backend, every request except copy construction answers and moves exactly as the ℕ specification `specOStep` says
    of what the object exposes and where its cursor is (`Rd.abs`) — slice creation included: same success condition, same window -/
theorem C13_request_refines_spec (r : Rd) (o : OOp) (hr : r.Good) (hn : r.NoFss) (ho : o.argOk) (hc : o.noCopy) :
    ((r.ostep o).1.abs, (r.ostep o).2.abs) = specOStep r.abs o := (Rd.ostep_refines r o hr hn ho hc).1

/-- a system of well-formed objects of any mix of backends answers every interleaved history as the list of abstract readers does -/
theorem C13_system_refines_spec (h : List (Nat × OOp)) (objs : Sys) (hok : Sys.Ok objs) (ha : ∀ p ∈ h, p.2.argOk ∧ p.2.noCopy) :
    ((Sys.run objs h).1.map (fun p => (p.1, p.2.map OOut.abs)), (Sys.run objs h).2.map Rd.abs) = SSys.run (objs.map Rd.abs) h :=
  Sys.run_refines h objs hok ha

/-- the observables the correspondence run prints after every step of every `multi` history — `Position()` and `Length()` of every
    live object, computed by each backend in its own way (u64 arithmetic on the wrapped cursor for slices) — ARE the relative
    cursor and the size of what the object exposes: the comparison with the C++ objects is a comparison of `Rd.abs` -/
theorem C13_printed_observables_are_abs (r : Rd) (hr : r.Good) : r.pos = r.abs.pos ∧ r.len = r.abs.data.length ∧ r.pos ≤ r.len :=
  Rd.observables r hr

/-- **identical observations in memory and in a file, for whole systems**: the same interleaved history — with every slice, slice of
    a slice and cursor slice it creates — on a memory reader and on a file reader over the same bytes gives the same answers, and
    corresponding objects expose the same bytes at the same positions.  (Copy construction is excluded: a copied file reader reopens
    at position 0, a copied memory reader keeps its position — `Rd.derive`, compared with the C++ by the `multi` runs.) -/
theorem C13_system_backend_equivalence (data : Bytes) (hd : data.length < W64) (h : List (Nat × OOp))
    (ha : ∀ p ∈ h, p.2.argOk ∧ p.2.noCopy) :
    let m := Sys.run [Rd.mem { data := data, pos := 0 }] h
    let f := Sys.run [Rd.file { data := data, pos := 0 }] h
    m.1.map (fun p => (p.1, p.2.map OOut.abs)) = f.1.map (fun p => (p.1, p.2.map OOut.abs)) ∧
    m.2.map Rd.abs = f.2.map Rd.abs := Sys.backend_equivalence data hd h ha

/-- the exclusion is real: after reading one byte, a copy of a file reader is at 0 and a copy of a memory reader at 1 -/
example : (((Sys.run [Rd.mem { data := [7, 8, 9], pos := 0 }] [(0, .op (.read 1)), (0, .derive .copy)]).2.map Rd.pos),
           ((Sys.run [Rd.file { data := [7, 8, 9], pos := 0 }] [(0, .op (.read 1)), (0, .derive .copy)]).2.map Rd.pos)) =
          ([1, 1], [1, 0]) := by decide

/-! ## archive member streams are such slices

`VolFile::OpenStream` hands out a `FileSliceReader` over the archive file.  The VOL model (`Op2Model/Vol.lean`, tied to the
code by the C01/C02/C05 runs) describes its construction a second time, independently, as `View.slice`; this theorem
identifies the two descriptions, so a member stream is an `Rd.fsl` object of `Sys` and everything above applies to it. -/

theorem C13_member_stream_is_slice (file : Bytes) (hf : file.length < W64) (start len : Nat) (hs : start < W64) (hl : len < W64) :
    (start + len ≤ file.length →
      Vol.View.slice file start len = .ok ((file.drop start).take len) ∧
      ∃ s, Slice.create fileWrapped { data := file, pos := 0 } start len = .ok s ∧ sliceGood RSpec.Inv id s ∧
        sliceAbs id s = { data := (file.drop start).take len, pos := 0 }) ∧
    (¬ start + len ≤ file.length →
      Vol.View.slice file start len = .error (.err .bounds) ∧
      Slice.create fileWrapped { data := file, pos := 0 } start len = .error .bounds) := by
  have hi : RSpec.Inv ({ data := file, pos := 0 } : RSpec) := ⟨Nat.zero_le _, hf⟩
  constructor
  · intro hfit
    refine ⟨?_, Slice.create_ok fileWrappedOK _ hi start len hfit⟩
    unfold Vol.View.slice
    rw [if_neg (by unfold W64 at *; omega), if_neg (by omega)]
  · intro hout
    refine ⟨?_, Slice.create_err fileWrappedOK _ hi start len hs hout⟩
    unfold Vol.View.slice
    by_cases c : len > W64 - 1 - start
    · rw [if_pos c]
    · rw [if_neg c, if_pos (by omega)]

/-- the same for `ClmFile::OpenStream` (`Clm.extent`, which states the bound in ℕ) -/
theorem C13_clm_member_stream_is_slice (file : Bytes) (hf : file.length < W64) (off len : Nat) (hs : off < W64) (hl : len < W64) :
    (∀ b, Clm.extent file off len = .ok b →
      ∃ s, Slice.create fileWrapped { data := file, pos := 0 } off len = .ok s ∧ sliceGood RSpec.Inv id s ∧
        sliceAbs id s = { data := b, pos := 0 }) ∧
    (Clm.extent file off len = .error .bounds →
      Slice.create fileWrapped { data := file, pos := 0 } off len = .error .bounds) := by
  have hi : RSpec.Inv ({ data := file, pos := 0 } : RSpec) := ⟨Nat.zero_le _, hf⟩
  unfold Clm.extent
  constructor
  · intro b hb
    split at hb
    · rename_i hfit
      cases hb
      exact Slice.create_ok fileWrappedOK _ hi off len hfit
    · cases hb
  · intro he
    split at he
    · cases he
    · rename_i hout
      exact Slice.create_err fileWrappedOK _ hi off len hs hout

/-- hence: a member stream of an archive, together with any other live objects and under any interleaved history of requests to
    it and to them, keeps exposing exactly the member's recorded extent of the archive file -/
theorem C13_member_stream_confined (file : Bytes) (hf : file.length < W64) (start len : Nat) (hfit : start + len ≤ file.length)
    (others : Sys) (h : List (Nat × OOp)) :
    ∃ s, Slice.create fileWrapped { data := file, pos := 0 } start len = .ok s ∧
      ∃ r', (Sys.run (Rd.fsl s :: others) h).2[0]? = some r' ∧ r'.content = (file.drop start).take len := by
  have hi : RSpec.Inv ({ data := file, pos := 0 } : RSpec) := ⟨Nat.zero_le _, hf⟩
  obtain ⟨s, e, g, a⟩ := Slice.create_ok fileWrappedOK _ hi start len hfit
  refine ⟨s, e, ?_⟩
  obtain ⟨r', h1, h2⟩ := Sys.run_content h (Rd.fsl s :: others) 0 (Rd.fsl s) rfl
  refine ⟨r', h1, ?_⟩
  rw [h2, ← Rd.abs_content, Rd.abs, a]; rfl

end Op2.Props.C13
