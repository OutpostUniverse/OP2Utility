import Op2Model.Vol
import Op2Proofs.Gen.Guards
import Op2Proofs.Vol.Reader
/-!
# C01 / C20 (VOL) — the refusal conditions of `VolFile::PrepareHeader` and `VolFile::ReadVolHeader`, as regenerated from
the current C++ (`Op2Model/Gen/Guards.lean`), are those of the model (`Vol.prepLoop`, the index-table test of `Vol.plan`,
`Vol.offLoop`; the five header tests of `Vol.openWith`) for ALL values of the C++ types.

Ranges: a file length and `std::string::size()` are `size_t` (the lemma asks `< 2^63`, `fileCount() < 2^60`: the 64-bit
sums of the guards then cannot wrap — a vector of 2^60 strings does not exist), `stringTableLength`, `dataBlockOffset`
and the four section lengths are `uint32_t`, the previous member's `fileSize` is an `int32_t` that passed the first guard.
-/
set_option linter.unusedSimpArgs false
namespace Op2.Props.C01Gen
open Op2 Op2.Vol Op2.Gen.Guards Op2.GenTactics Op2.GenGuards

theorem prepLoop_one_refused (f : InFile) (stl : Nat) :
    refused (prepLoop [f] stl) = decide (f.content.len > int32Max ∨ stl + (nameOf f).length + 1 > uint32Max) := by
  simp only [prepLoop]
  by_cases h1 : f.content.len > int32Max
  · simp [h1]
  · by_cases h2 : stl + (nameOf f).length + 1 > uint32Max
    · simp [h1, h2]
    · simp [h1, h2]

theorem offLoop_one_refused (po ps : Nat) (e : Entry) :
    refused (offLoop po ps [e]) = decide (mask64 (u64 (po + ps + blockPad)) > uint32Max) := by
  simp only [offLoop]
  by_cases h1 : mask64 (u64 (po + ps + blockPad)) > uint32Max
  · simp [h1]
  · simp [h1]

/-- `PrepareHeader`: member size (`> INT32_MAX`), name table (`> UINT32_MAX`, 64-bit sum), index table
    (`count * sizeof(IndexEntry) > UINT32_MAX`), next block offset (`(prev.offset + prev.size + 11) & ~3 > UINT32_MAX` in 64 bits) -/
theorem C01_gen_prepareHeader_refuses : VolFile_PrepareHeader_guards_translated = true →
    ∀ (f : InFile) (stl n po ps cnt : Nat) (e : Entry),
      f.content.len < 2 ^ 63 → stl < W32 → (nameOf f).length < 2 ^ 63 → n < 2 ^ 60 → po < W32 → ps ≤ int32Max → cnt < W64 →
      VolFile_PrepareHeader_refuses f.content.len stl (nameOf f).length n po ps cnt =
        (refused (prepLoop [f] stl) || decide (n * entrySize > uint32Max) || refused (offLoop po ps [e])) := by
  gen_bridge =>
    intro f stl n po ps cnt e h1 h2 h3 h4 h5 h6 h7
    rw [prepLoop_one_refused, offLoop_one_refused]
    generalize f.content.len = len at *
    generalize (nameOf f).length = nl at *
    unfold VolFile_PrepareHeader_refuses
    guard_beq
    simp only [int32Max, uint32Max, entrySize, blockPad, mask64, u64, W32, W64, Op2.Gen.Layout.size_VolIndexEntry] at *
    (try simp only [gen_norm] at *)
    rw [and_mask64 _ (by omega)]
    repeat rw [and_mask64 _ (by omega)]
    -- no-wrap facts about the model-side quantities (omega's elimination is inexact on `14 * n` otherwise)
    have e1 : ((n : Int) * 14) / 18446744073709551616 = 0 := by omega
    have e1' : (14 * (n : Int)) / 18446744073709551616 = 0 := by omega
    have e2 : ((po + ps + 11 : Nat) : Int) / 18446744073709551616 = 0 := by omega
    omega

/-- `ReadVolHeader`: the five tests on the file length and the section lengths (`ReadTag` results) -/
theorem C01_gen_readVolHeader_refuses : VolFile_ReadVolHeader_guards_translated = true →
    ∀ (L hl vh sl il : Nat), L < 2 ^ 63 → hl < W32 → vh < W32 → sl < W32 → il < W32 →
      (VolFile_ReadVolHeader_refuses L hl vh sl il = true ↔
        (L < secSize ∨ L < hl + secSize ∨ vh ≠ 0 ∨ hl < sl + secSize * 2 + 4 ∨ hl < u32 (sl + il + headerExtra))) := by
  gen_bridge =>
    intro L hl vh sl il h1 h2 h3 h4 h5
    unfold VolFile_ReadVolHeader_refuses
    guard_iff
    simp only [secSize, headerExtra, u32, W32, W64, Op2.Gen.Layout.size_VolSectionHeader] at *
    (try simp only [gen_norm] at *)
    omega

/-- tie to the model FUNCTION: whatever `Vol.openWith` accepts, the regenerated `ReadVolHeader` does not refuse (on the file
    length and the section lengths the model read) — i.e. every regenerated guard is one the model applies -/
theorem C01_gen_open_accepted_not_refused : VolFile_ReadVolHeader_guards_translated = true →
    ∀ (cfg : Cfg) (file : Bytes) (v : View), file.length < 2 ^ 63 → openWith cfg file = .ok v →
      ∃ hl sl il p, readTag file 0 tagVOL = .ok hl ∧ readTag file 8 tagVOLH = .ok 0 ∧ readTag file 16 tagVOLS = .ok sl ∧
        readTag file p tagVOLI = .ok il ∧ VolFile_ReadVolHeader_refuses file.length hl 0 sl il = false := by
  gen_bridge ht =>
    intro cfg file v hL h
    obtain ⟨hl, sl, il, p, e1, e2, e3, e4, hn⟩ := openWith_ok_tests cfg file v h
    refine ⟨hl, sl, il, p, e1, e2, e3, e4, ?_⟩
    cases hr : VolFile_ReadVolHeader_refuses file.length hl 0 sl il with
    | false => rfl
    | true =>
      exact absurd ((C01_gen_readVolHeader_refuses ht file.length hl 0 sl il hL (readTag_lt e1) (by decide)
        (readTag_lt e3) (readTag_lt e4)).mp hr) hn

end Op2.Props.C01Gen
