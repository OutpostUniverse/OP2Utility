import Op2Proofs.Lzh.Drain
import Op2Proofs.Lzh.Bits
import Op2Proofs.Lzh.Encode
import Op2Model.Gen.Constants
import Op2Model.Gen.Layout
import Op2Model.Gen.Formulas
/-!
# C04 — LZH decompression equals the reference decoder, however it is drained

`Spec.decode data` is the reference: textbook LZSS over the unbounded output history (most distances reach back into
an unbounded run of spaces), the 314-symbol adaptive Huffman tree, do-while on the bit cursor.  `St`, `getData`,
`getInternal` are `HuffLZ` as written: 4 KiB circular window doubling as output queue.
-/
namespace Op2.Props.C04
open Op2 Op2.Huff Op2.Lzh Op2.Lzh.Spec

theorem C04_gen_constants :
    (Gen.Constants.huff_symbolCount_scraped = true → Gen.Constants.huff_symbolCount = symbolCount) ∧
    (Gen.Constants.huff_matchBase_scraped = true → Gen.Constants.huff_matchBase = matchBase) ∧
    (Gen.Constants.huff_literalLimit_scraped = true → Gen.Constants.huff_literalLimit = 256) ∧
    (Gen.Constants.huff_fillByte_scraped = true → Gen.Constants.huff_fillByte = fillByte.toNat) ∧
    (Gen.Constants.huff_windowMask_scraped = true → Gen.Constants.huff_windowMask + 1 = N) ∧ Gen.Layout.huffLZ_bufferSize = N := by decide

/-- the tuning constant of `FillDecompressBuffer` leaves room for the longest code (60 bytes) in the 4096-byte window -/
theorem C04_gen_maxFill_safe : 0 < Gen.Constants.huff_maxFill ∧ Gen.Constants.huff_maxFill + (symbolCount - 1 - matchBase) < N :=
  maxFill_safe

/-- `GetOffsetModifiers` as translated from the clang AST equals the model's table, for every 8-bit code (by kernel
    evaluation of all 256 codes: any spelling of the function inside the translator's fragment is accepted) -/
theorem C04_gen_offsetModifiers_table : Gen.Formulas.gen_GetOffsetModifiers_translated = true →
    (List.range 256).all (fun o => decide (Gen.Formulas.gen_GetOffsetModifiers (Int.ofNat o)
      = (Int.ofNat (offsetMods o).1, Int.ofNat (offsetMods o).2))) = true := by decide +kernel

theorem C04_gen_offsetModifiers : Gen.Formulas.gen_GetOffsetModifiers_translated = true → ∀ o : Nat, o < 256 →
    Gen.Formulas.gen_GetOffsetModifiers (Int.ofNat o) = (Int.ofNat (offsetMods o).1, Int.ofNat (offsetMods o).2) := by
  intro ht o h
  have := List.all_eq_true.mp (C04_gen_offsetModifiers_table ht) o (List.mem_range.mpr h)
  simpa using this

/-- **`BitStreamReader` with its one-byte shift register is the pure bit stream** (MSB first, zero past the end, the
    cursor stops at the end for single bits and overshoots by at most 7 for `ReadNext8Bits`): every sequence of
    `ReadNextBit` / `ReadNext8Bits` calls returns the same values and cursors -/
theorem C04_bit_reader_refines (data : Array UInt8) (ops : List BitOp) :
    runC data { pos := 0, buf := 0 } ops = runA data 0 ops :=
  run_refines data ops _ (cinv_init data)

/-- the pure stream is what the property describes: bit `p` is bit `7 - p % 8` of byte `p / 8`, and 0 past the end -/
theorem C04_bit_stream (data : Array UInt8) (p : Nat) :
    bitAt data p = (byteAt data (p / 8) / 2 ^ (7 - p % 8)) % 2 ∧ (bitSize data ≤ p → bitAt data p = 0) := by
  refine ⟨bitAt_eq data p, ?_⟩
  intro h
  rw [bitAt_eq]
  rw [byteAt_past data _ (by unfold bitSize at h; omega)]; simp

/-- the reference decoder terminates on every byte string (its fuel, the bit length plus two, is never exhausted) -/
theorem C04_terminates (data : Array UInt8) : (Spec.decode data).2 ≠ .fuel := by
  obtain ⟨res, ⟨_, _, hne⟩, h⟩ := decode_good data
  rw [h]; exact hne

/-- every decoded offset is a 12-bit number and every match is 3..60 bytes long: the copy source and destination are
    window indices `< 4096` -/
theorem C04_offsets_in_window (data : Array UInt8) (t t' : TA) (p p2 off len : Nat) (hT : t.T = symbolCount)
    (h : decodeSym data t p = .mat t' p2 off len) : off < N ∧ 3 ≤ len ∧ len ≤ 60 :=
  decodeSym_mat hT h

/-- every reachable decoder object keeps its 4096-byte buffer, its indices inside it, and a well-formed tree whose
    tables keep their sizes; every buffer store and tree store is therefore in bounds -/
theorem C04_window_safe (data : Array UInt8) :
    ∀ (st : St) (hist : List UInt8) (taken : Nat) (res : List UInt8 × Status), Inv data st hist taken res →
      st.buf.size = N ∧ st.w < N ∧ st.r < N ∧ st.unread < N :=
  fun st _ _ _ i => ⟨i.win.size, i.win.hw, i.hr, unread_lt st⟩

/-- **drain independence**: for every byte string and every finite sequence of `GetData(k)` / `GetInternalBuffer`
    calls, the bytes delivered (concatenated) are exactly the first so-many bytes of the reference output, and a call
    fails only if the reference decoder itself ends at the tree's capacity -/
theorem C04_refines (data : Array UInt8) (calls : List Call) :
    (drain (St.init data) calls).1.flatten = (Spec.decode data).1.take (drain (St.init data) calls).1.flatten.length ∧
    ((drain (St.init data) calls).2 = true → (Spec.decode data).2 = .capacity) := by
  obtain ⟨res, g, h⟩ := decode_good data
  have := drain_spec data res calls (St.init data) [] 0 (inv_init g)
  rw [List.drop_zero] at this
  rw [h]; exact this

/-- `GetData(k)` on a fresh decoder returns the first `min k |output|` bytes of the reference output (so a caller that
    asks for more than there is gets everything, and a short count means the output has ended) -/
theorem C04_getData_first (data : Array UInt8) (k : Nat) (h : (Spec.decode data).2 = .done) :
    ∃ st', getData (St.init data) k = .ok ((Spec.decode data).1.take k, st') := by
  obtain ⟨res, g, hd⟩ := decode_good data
  rw [hd] at h ⊢
  rcases getData_spec data res (St.init data) k [] 0 (inv_init g) with ⟨_, hcap⟩ | ⟨st', a, _⟩
  · rw [show res.2 = .done from h] at hcap; cases hcap
  · rw [List.drop_zero] at a
    exact ⟨st', a⟩

/-- two schedules that deliver the same number of bytes deliver the same bytes -/
theorem C04_schedule_independent (data : Array UInt8) (c1 c2 : List Call)
    (h : (drain (St.init data) c1).1.flatten.length = (drain (St.init data) c2).1.flatten.length) :
    (drain (St.init data) c1).1.flatten = (drain (St.init data) c2).1.flatten := by
  rw [(C04_refines data c1).1, (C04_refines data c2).1, h]

/-- within capacity no call fails -/
theorem C04_no_error_within_capacity (data : Array UInt8) (calls : List Call) (h : (Spec.decode data).2 = .done) :
    (drain (St.init data) calls).2 = false := by
  cases hd : (drain (St.init data) calls).2 with
  | false => rfl
  | true => have := (C04_refines data calls).2 hd; rw [h] at this; cases this

/-- `GetInternalBuffer` returning no bytes means the whole reference output has been delivered (this is the loop
    condition of `VolFile::ExtractFileLzh`) -/
theorem C04_internal_empty_means_done (data : Array UInt8) (st : St) (hist : List UInt8) (taken : Nat)
    (i : Inv data st hist taken (Spec.run data (bitSize data + 2) (TA.init symbolCount) 0 []))
    (st' : St) (h : getInternal st = .ok ([], st')) : taken = (Spec.decode data).1.length := by
  have hd : Spec.decode data = (_, _) := rfl
  rw [hd]
  generalize Spec.run data (bitSize data + 2) (TA.init symbolCount) 0 [] = res at i ⊢
  rcases getInternal_spec data res st hist taken i with ⟨⟨e, he⟩, _⟩ | ⟨st2, hist2, bytes, a, _, _, d⟩
  · rw [he] at h; cases h
  · rw [a] at h
    simp only [Except.ok.injEq, Prod.mk.injEq] at h
    rw [d h.1]
    exact (List.length_reverse).symm

/-- **capacity**: when the input needs more symbol updates than the tree's counters can represent, the reference
    output stops at that code, and no drain schedule ever delivers a byte beyond it (`C04_refines` bounds every
    delivery by the reference output) -/
theorem C04_capacity (data : Array UInt8) (calls : List Call) :
    (drain (St.init data) calls).1.flatten.length ≤ (Spec.decode data).1.length := by
  have h := (C04_refines data calls).1
  have := congrArg List.length h
  rw [List.length_take] at this
  omega

/-- on every tree the decoder can reach, no tree query is ever refused: the walk stays on nodes, ends on a leaf and
    yields a symbol `< 314` — the only error a code can end in is the refusal of the update -/
theorem C04_no_query_error (data : Array UInt8) (t : TA) (k : TreeOk t) (p : Nat) : decodeSym data t p ≠ .badQuery :=
  decodeSym_not_badQuery k data p

/-- **the refusal happens exactly at the capacity limit**: a code is refused iff the root counter is full
    (65535 = 314 + 65221 updates, `C15_array_reachable`), and then nothing is appended -/
theorem C04_refused_iff_counter_full (data : Array UInt8) (t : TA) (k : TreeOk t) (p : Nat) (hist : List UInt8) :
    Spec.step data t p hist = .cap ↔ t.cnt.getD t.root 0 ≥ TF.maxCount :=
  step_cap_iff_full k data p hist

/-- if the reference decoder ends at capacity, it stopped in a state whose tree is well formed and full -/
theorem C04_capacity_point (data : Array UInt8) : ∀ fuel (t : TA) (p : Nat) (hist : List UInt8), TreeOk t →
    (Spec.run data fuel t p hist).2 = .capacity →
    ∃ t' p', TreeOk t' ∧ t'.cnt.getD t'.root 0 ≥ TF.maxCount ∧
      Spec.step data t' p' (Spec.run data fuel t p hist).1 = .cap := by
  intro fuel
  induction fuel with
  | zero => intro t p hist _ h; simp [Spec.run] at h
  | succ f ih =>
    intro t p hist k h
    simp only [Spec.run] at h ⊢
    cases hs : Spec.step data t p hist with
    | cap => exact ⟨t, p, k, (step_cap_iff_full k data p hist).mp hs, hs⟩
    | last hist' => simp [hs] at h
    | next t' p' hist' =>
      simp only [hs] at h ⊢
      exact ih t' p' hist' (step_next k hs).1 h

/-- the hypotheses of the round-trip law, spelled out -/
theorem C04_token_wf (tok : Token) :
    tok.WF ↔ (match tok with
      | .lit b => b < 256
      | .mat len dist => 3 ≤ len ∧ len ≤ 60 ∧ 1 ≤ dist ∧ dist ≤ 4096) := by
  cases tok <;> exact Iff.rfl

/-- the length bound of the round-trip law: the payload's codes plus seven (the most the padding bits can yield) are
    within the 65221 updates the 314-symbol tree accepts before its root counter is full -/
theorem C04_token_limit : tokenLimit = 65214 ∧ tokenLimit + 7 + symbolCount = TF.maxCount := by decide

/-- **encoder round trip**: every payload (a list of well-formed tokens, at most 65214 of them so that the tree never
    fills) compressed by the independent encoder `Spec.encode` is decoded by the reference decoder to completion
    (`.done`), the decoded string begins with the payload, and fewer than eight codes are decoded beyond the payload's:
    the decoder reads `Spec.codeCount` codes in all, fewer than `ts.length + 8` -/
theorem C04_encoder_prefix (ts : List Token) (hwf : ∀ tok ∈ ts, tok.WF) (hlen : ts.length + 7 ≤ 65221) :
    ∃ out, Spec.decode (Spec.encode ts).toArray = (out, .done) ∧
      (Spec.expand [] ts).reverse <+: out ∧
      Spec.codeCount (Spec.encode ts).toArray < ts.length + 8 := by
  obtain ⟨out, h1, h2, h3⟩ := decode_encode_prefix ts hwf (by have := C04_token_limit.1; omega)
  have := paddingBits_lt ts
  exact ⟨out, h1, h2, by omega⟩

/-- the further codes are those of the last byte's padding bits: beyond the payload's codes the decoder reads at most
    one code per zero bit the encoder added to fill the last byte (fewer than eight), and exactly one code in all when
    the payload is empty -/
theorem C04_encoder_padding_codes (ts : List Token) (hwf : ∀ tok ∈ ts, tok.WF) (hlen : ts.length + 7 ≤ 65221) :
    Spec.codeCount (Spec.encode ts).toArray ≤ max 1 (ts.length + paddingBits ts) ∧ paddingBits ts < 8 ∧
    paddingBits ts = bitSize (Spec.encode ts).toArray - (encodeBits (TA.init symbolCount) ts).length := by
  obtain ⟨_, _, _, h3⟩ := decode_encode_prefix ts hwf (by have := C04_token_limit.1; omega)
  exact ⟨h3, paddingBits_lt ts, rfl⟩

/-- so every drain schedule delivers the payload first: the bytes `GetData` returns for a request of the payload's
    length are the payload -/
theorem C04_encoder_getData (ts : List Token) (hwf : ∀ tok ∈ ts, tok.WF) (hlen : ts.length + 7 ≤ 65221) :
    ∃ st', getData (St.init (Spec.encode ts).toArray) (Spec.expand [] ts).length = .ok ((Spec.expand [] ts).reverse, st') := by
  obtain ⟨out, h1, h2, _⟩ := C04_encoder_prefix ts hwf hlen
  obtain ⟨st', h⟩ := C04_getData_first (Spec.encode ts).toArray (Spec.expand [] ts).length (by rw [h1])
  refine ⟨st', ?_⟩
  rw [h, h1]
  have := List.prefix_iff_eq_take.mp h2
  rw [List.length_reverse] at this
  rw [← this]

/-- non-vacuity: a concrete payload (two literals and an overlapping match) satisfies the hypotheses -/
example : (∀ tok ∈ [Token.lit 65, Token.lit 66, Token.mat 5 2], tok.WF) ∧
    [Token.lit 65, Token.lit 66, Token.mat 5 2].length + 7 ≤ 65221 := by
  refine ⟨?_, by decide⟩
  intro tok h
  simp only [List.mem_cons, List.mem_nil_iff, or_false] at h
  rcases h with rfl | rfl | rfl
  · show 65 < 256; omega
  · show 66 < 256; omega
  · show 3 ≤ 5 ∧ 5 ≤ 60 ∧ 1 ≤ 2 ∧ 2 ≤ 4096; omega

/-- non-vacuity: the initial object satisfies the invariant all of the above rest on -/
example (data : Array UInt8) : Inv data (St.init data) [] 0 (Spec.run data (bitSize data + 2) (TA.init symbolCount) 0 []) :=
  inv_init (good_init data)

end Op2.Props.C04
