import Op2Proofs.Gen.Tactics
import Op2Proofs.Map.Saved
import Op2Proofs.Map.Write
import Op2Model.Gen.Layout
import Op2Model.Gen.Constants
import Op2Model.Gen.Formulas
/-!
# C07 — map and saved-game readers are safe and self-consistent on arbitrary bytes

`read` / `readSavedGame` are the models of `Map::ReadMap(Stream::Reader&)` / `Map::ReadSavedGame(BidirectionalReader&)`
(`Op2Model/Map.lean`).  Every statement is for **all** byte strings.
-/
namespace Op2.Props.C07
open Op2 Op2.Map Op2.Parser

/-! ## generated facts the model relies on (re-measured from the current source on every run) -/

theorem C07_gen_layout :
    Gen.Layout.size_MapHeader = headerSize ∧ Gen.Layout.off_MapHeader_versionTag = 0 ∧
    Gen.Layout.off_MapHeader_bSavedGame = 4 ∧ Gen.Layout.off_MapHeader_lgWidthInTiles = 8 ∧
    Gen.Layout.off_MapHeader_heightInTiles = 12 ∧ Gen.Layout.off_MapHeader_tilesetCount = 16 ∧
    Gen.Layout.MinMapVersion = minMapVersion ∧ Gen.Layout.size_Tile = 4 ∧ Gen.Layout.size_Rect = rectSize ∧
    Gen.Layout.size_TileMapping = mappingSize ∧ Gen.Layout.size_TerrainType = terrainSize ∧
    Gen.Layout.size_ObjectType1 = object1Size ∧ Gen.Layout.savedGame_unitsArrayBytes = unitsArrayBytes ∧
    Gen.Layout.savedGame_freeUnitsBytes = freeUnitsBytes ∧ Gen.Layout.DefaultSizeOfUnit = defaultSizeOfUnit := by decide

theorem C07_gen_constants :
    (Gen.Constants.map_savedGameSkip_scraped = true → Gen.Constants.map_savedGameSkip = savedGameSkip) ∧
    (Gen.Constants.map_tilesetHeader_scraped = true → Gen.Constants.map_tilesetHeader = marker.map (·.toNat)) := by decide

/-- `MapHeader::WidthInTiles` as translated from the source is the checked shift wherever that is defined -/
theorem C07_gen_WidthInTiles : Gen.Formulas.gen_WidthInTiles_translated = true →
    ∀ k : Nat, k < 32 → Gen.Formulas.gen_WidthInTiles (k : Int) = ((2 ^ k : Nat) : Int) := by
  decide

theorem C07_shlOne (k : Nat) (hk : k < 32) : shlOne k = .ok (2 ^ k) := shlOne_eq hk

open Op2.GenTactics in
/-- `MapHeader::TileCount` as translated from the source is `height << lg` reduced to 32 bits -/
theorem C07_gen_TileCount (h k : Nat) (hk : k < 32) : Gen.Formulas.gen_TileCount_translated = true →
    Gen.Formulas.gen_TileCount (h : Int) (k : Int) = ((u32 (h * 2 ^ k) : Nat) : Int) ∧ shl32 h k = .ok (u32 (h * 2 ^ k)) := by
  gen_bridge =>
  constructor
  · unfold Gen.Formulas.gen_TileCount Gen.Formulas.castU u32 W32
    simp only [Int.toNat_natCast]
    norm_cast
  · unfold shl32; rw [if_neg (by omega)]

/-- the map reader never executes an over-wide shift (nor any other modelled undefined operation), whatever the bytes -/
theorem C07_no_fault (b : Bytes) (f : Fault) : read b ≠ .fault f := by
  intro h
  obtain ⟨r, hp⟩ := outcome_eq_fault.mp h
  obtain ⟨_, _, _, _, he, _⟩ := pMap_eq_ok.mp hp
  cases he

/-- the same for the saved-game reader -/
theorem C07_no_fault_saved (b : Bytes) (f : Fault) : readSavedGame b ≠ .fault f := by
  intro h
  obtain ⟨r, hp⟩ := outcome_eq_fault.mp h
  obtain ⟨_, _, he, _⟩ := pSavedGame_ok hp
  cases he

/-- the guard is what makes it so: without it the very same shifts do fault (the pinned tree, D13) -/
example : dims 32 1 = .error .shiftTooWide ∧ dimsOk 32 1 = false := ⟨rfl, by decide⟩
example : dims 31 2 = .ok (2147483648, 0) ∧ dimsOk 31 2 = false := ⟨rfl, by decide⟩   -- the truncated "success"

/-- a returned map has a power-of-two width (2^k, k < 32) and exactly width × height tiles — the product taken in ℕ,
    not modulo 2^32 -/
theorem C07_shape (b : Bytes) (m : Map) (n : Nat) (h : read b = .ok m n) :
    ∃ k, k < 32 ∧ m.width = 2 ^ k ∧ m.tiles.length = m.width * m.height := by
  obtain ⟨k, _, _, _, wf, hk, hw, _⟩ := read_eq_ok.mp h
  exact ⟨k, hk, hw, by rw [wf.count, Nat.mul_comm]⟩

theorem C07_shape_saved (b : Bytes) (m : Map) (n : Nat) (h : readSavedGame b = .ok m n) :
    ∃ k, k < 32 ∧ m.width = 2 ^ k ∧ m.tiles.length = m.width * m.height := by
  obtain ⟨r, hp, _⟩ := outcome_eq_ok.mp h
  obtain ⟨_, _, he, _, hb⟩ := pSavedGame_ok hp
  obtain ⟨_, k, _, e, wf, _, hk, hw, _⟩ := pBeginning_eq_ok.mp hb
  cases he; cases e
  exact ⟨k, hk, hw, by rw [wf.count, Nat.mul_comm]⟩

/-- every proper prefix that cuts into the bytes the map reader consumed is an ordinary error -/
theorem C07_prefix_strict (b : Bytes) (m : Map) (n : Nat) (h : read b = .ok m n) (k : Nat) (hk : k < n) :
    ∃ e, read (b.take k) = .err e := prefix_strict_of_local local_pMap b m n h k hk

theorem C07_prefix_strict_saved (b : Bytes) (m : Map) (n : Nat) (h : readSavedGame b = .ok m n) (k : Nat) (hk : k < n) :
    ∃ e, readSavedGame (b.take k) = .err e := prefix_strict_of_local local_pSavedGame b m n h k hk

/-- the consumed count never exceeds the input, and bytes after it do not matter (saved games; for maps see C06_trailing) -/
theorem C07_trailing_saved (b : Bytes) (m : Map) (n : Nat) (h : readSavedGame b = .ok m n) (junk : Bytes) :
    n ≤ b.length ∧ readSavedGame (b.take n ++ junk) = .ok m n :=
  trailing_of_local local_pSavedGame b m n h junk

/-- number of bytes `ReadMapBeginning` consumes of `b` (0 if it fails) -/
def beginLen (b : Bytes) : Nat :=
  match Parser.run pBeginning b with
  | .ok (_, k) => k
  | .error _ => 0

/-- the fields the property names (plus the two header fields that come with them) -/
def SameMapPart (m1 m2 : Map) : Prop :=
  m1.width = m2.width ∧ m1.height = m2.height ∧ m1.tiles = m2.tiles ∧ m1.clip = m2.clip ∧ m1.sources = m2.sources ∧
  m1.mappings = m2.mappings ∧ m1.terrains = m2.terrains ∧ m1.versionTag = m2.versionTag ∧ m1.savedGame = m2.savedGame

/-- if the bytes after the fixed saved-game header agree with a map file on the portion `ReadMapBeginning` consumes of that
    map file, both readers return the same dimensions, tiles, clip rectangle, tileset sources, mappings and terrain types -/
theorem C07_saved_game_same_map (s b : Bytes) (m1 m2 : Map) (n1 n2 : Nat)
    (h1 : readSavedGame s = .ok m1 n1) (h2 : read b = .ok m2 n2)
    (same : (s.drop savedGameSkip).take (beginLen b) = b.take (beginLen b)) : SameMapPart m1 m2 := by
  obtain ⟨r2, hp2, _⟩ := outcome_eq_ok.mp h2
  obtain ⟨r1, hp1, _⟩ := outcome_eq_ok.mp h1
  obtain ⟨m0, gs, rb, e, hb⟩ := pMap_ok hp2
  cases e
  obtain ⟨_, rb', e, -, hb'⟩ := pSavedGame_ok hp1
  cases e
  -- `ReadMapBeginning` sees only the prefix `s0` it consumes, and the two inputs agree on it
  obtain ⟨s0, rfl, hs, -⟩ := local_pBeginning.reads hb
  have hlen : beginLen (s0 ++ rb) = s0.length := by unfold beginLen; rw [hs.run rb]
  rw [hlen, List.take_left' rfl] at same
  have e : s.drop savedGameSkip = s0 ++ (s.drop savedGameSkip).drop s0.length := by
    conv => lhs; rw [← List.take_append_drop s0.length (s.drop savedGameSkip), same]
  rw [e, hs _] at hb'
  cases hb'
  exact ⟨rfl, rfl, rfl, rfl, rfl, rfl, rfl, rfl, rfl⟩

/-- saved games exist for every well-formed map portion and read to exactly that portion: a file made of any 0x1E025 bytes,
    the map's beginning, the tag, a unit block, the tag, anything; and the map file with the same beginning reads to the
    same fields (plus its groups) -/
theorem C07_saved_game_reads (m : Map) (wf : Spec.WF m) (k : Nat) (hk : k < 32) (hw : m.width = 2 ^ k)
    (pad u rest : Bytes) (hpad : pad.length = savedGameSkip) (hu : u.length = unitsArrayBytes) :
    readSavedGame (pad ++ beginBytes m k ++ encU32 m.versionTag ++ emptyUnits u ++ encU32 m.versionTag ++ rest) =
      .ok { m with groups := [] } (savedGameSkip + (beginBytes m k).length + 4 + (emptyUnits u).length + 4) ∧
    read (beginBytes m k ++ encU32 m.versionTag ++ encU32 m.versionTag ++ encGroups m.groups ++ rest) =
      .ok m ((beginBytes m k).length + 4 + 4 + (encGroups m.groups).length) := by
  constructor
  · have hr : Reads pSavedGame (pad ++ beginBytes m k ++ encU32 m.versionTag ++ emptyUnits u ++ encU32 m.versionTag)
        (.ok { m with groups := [] }) := by
      intro r
      unfold pSavedGame
      simp only [List.append_assoc]
      rw [bind_take hpad, (reads_pBeginning m k hk hw wf).bind_eq]
      simp only []
      rw [(reads_pVersionTag _ wf.tagMin wf.tagLt).bind_eq, (reads_pUnits u hu).bind_eq,
        (reads_pVersionTag _ wf.tagMin wf.tagLt).bind_eq]
      rfl
    rw [readSavedGame, outcome_eq_ok]
    refine ⟨rest, hr rest, ?_⟩
    simp [List.length_append, hpad, encU32_length]
    omega
  · have e : beginBytes m k ++ encU32 m.versionTag ++ encU32 m.versionTag ++ encGroups m.groups =
        fileOf m k (if m.savedGame then 1 else 0) (unknownWord m.groups) := by
      simp only [fileOf, beginBytes_eq, encGroups, List.append_assoc]
    have hu' : unknownWord m.groups < W32 := by
      rw [unknownWord_eq _ wf.ngrp]; exact Nat.lt_of_le_of_lt (Nat.sub_le _ _) wf.ngrp
    rw [e, read_eq_ok.mpr ⟨k, _, _, rest, wf, hk, hw, (flagWord _).1, (flagWord _).2, hu', rfl, rfl⟩, ← e]
    simp [List.length_append, encU32_length]
    omega

/-! ## non-vacuity: concrete files on which the hypotheses hold -/

/-- a 2 x 1 map with one named tileset source, one mapping, one tile group -/
def sampleMap : Map :=
  { versionTag := 0x1011, savedGame := false, width := 2, height := 1, tiles := [0x12345678, 7], clip := zeros 16,
    sources := [⟨[119, 101, 108, 108, 48, 48, 48, 49], 40⟩, ⟨[], 0⟩], mappings := [zeros 8], terrains := [],
    groups := [⟨[114, 111, 99, 107], 1, 2, [5, 6]⟩] }

def sampleBytes : Bytes := Spec.encode sampleMap

example : read sampleBytes = .ok sampleMap sampleBytes.length := by decide +kernel
example : read (sampleBytes ++ [1, 2, 3]) = .ok sampleMap sampleBytes.length := by decide +kernel
example : read (sampleBytes.take 40) = .err .bounds := by decide +kernel
-- a header asking for a 2^31 x 2 map (the D13 witness) is refused with an ordinary error
example : read (encU32 0x1011 ++ encU32 0 ++ encU32 31 ++ encU32 2 ++ encU32 0 ++ zeros 64) = .err .format := by decide
example : read (encU32 0x1011 ++ encU32 0 ++ encU32 32 ++ encU32 1 ++ encU32 0 ++ zeros 64) = .err .format := by decide

end Op2.Props.C07
