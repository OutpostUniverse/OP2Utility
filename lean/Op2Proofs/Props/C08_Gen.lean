import Op2Proofs.Gen.Validate
import Op2Proofs.Bmp.GenBridge
/-!
# C08 — bridging lemmas: the validation functions of `src/Bitmap/ImageHeader.cpp` and `src/Bitmap/BitmapFile.cpp`, as translated
from the current C++ on this run (`Op2Model/Gen/Validate.lean`), decide exactly what the hand-written model `Op2Model/Bmp.lean`
decides (`ImageHeader.Valid`, `verifyPixelSize`, `verifyPalette`, the `bitCount ≤ 8` guard of the reader and the writer), for
every value of the C++ field types.  `none` = the C++ function throws.
-/
set_option linter.unusedSimpArgs false
namespace Op2.Props.C08
open Op2 Op2.Bmp Op2.GenBridge Op2.GenValidate
open Op2.Gen.Validate

/-- `ImageHeader::IsValidBitCount(uint16_t)`: membership in the model's `validBitCounts`, for all 65536 arguments -/
theorem C08_gen_isValidBitCount : ImageHeader_IsValidBitCount_translated = true →
    ∀ bits : Nat, bits < 65536 →
      ImageHeader_IsValidBitCount bits = some (if bits ∈ validBitCounts then 1 else 0) := by
  gen_bridge =>
    intro bits hb
    gen_validate_simp [validBitCounts, List.mem_cons, List.mem_nil_iff, or_false]
    (try simp only [gen_norm] at *)
    gen_close

/-- `ImageHeader::IsIndexedImage(uint16_t)`: the model's guard `bitCount ≤ 8` -/
theorem C08_gen_isIndexedImage : ImageHeader_IsIndexedImage_translated = true →
    ∀ bits : Nat, bits < 65536 →
      ImageHeader_IsIndexedImage bits = some (if bits ≤ 8 then 1 else 0) := by
  gen_bridge =>
    intro bits hb
    gen_validate_unfold
    (try simp only [gen_norm] at *)
    gen_close

/-- `ImageHeader::CalcMaxIndexedPaletteSize` (static and member): throws above 8 bits, else `2 ^ bitCount` -/
theorem C08_gen_calcMaxIndexedPaletteSize :
    (ImageHeader_CalcMaxIndexedPaletteSize_translated && ImageHeader_CalcMaxIndexedPaletteSize0_translated) = true →
    ∀ bits : Nat, bits < 65536 →
      ImageHeader_CalcMaxIndexedPaletteSize bits = (if bits ≤ 8 then some ((2 ^ bits : Nat) : Int) else none) ∧
      ImageHeader_CalcMaxIndexedPaletteSize0 bits = (if bits ≤ 8 then some ((2 ^ bits : Nat) : Int) else none) := by
  gen_bridge =>
    intro bits hb
    gen_validate_unfold
    simp only [Op2.Gen.Validate.shl, castS32_u16 bits hb, Int.toNat_natCast]
    have hp := two_pow_le_256 bits
    rw [two_pow_natCast]
    generalize 2 ^ bits = pw at *
    and_intros <;> gen_close

/-- the statement of `C08_gen_imageHeader_validate` on the fields -/
def ValidateAgrees (hs : Nat) (w ht : Int) (pl bits used imp : Nat) : Prop :=
  hs < 4294967296 → -2147483648 ≤ w → w ≤ 2147483647 → -2147483648 ≤ ht → ht ≤ 2147483647 → pl < 65536 → bits < 65536 →
    used < 4294967296 → imp < 4294967296 →
    ImageHeader_Validate hs w ht pl bits used imp =
      if (hs = 40 ∧ pl = 1 ∧ (bits = 1 ∨ bits = 4 ∨ bits = 8 ∨ bits = 16 ∨ bits = 24 ∨ bits = 32) ∧ 0 ≤ w ∧ ht ≠ -2147483648 ∧
          bits ≤ 8 ∧ used ≤ 2 ^ bits ∧ imp ≤ 2 ^ bits) then some () else none

/-- The palette limit `1 << bitCount` is `2 ^ bits`, an atom for `omega`, and at most 256 wherever it is compared. -/
theorem C08_gen_validate_all : ImageHeader_Validate_translated = true →
    ∀ (hs : Nat) (w ht : Int) (pl bits used imp : Nat), ValidateAgrees hs w ht pl bits used imp := by
  gen_bridge =>
    unfold ValidateAgrees; intro hs w ht pl bits used imp h1 h2 h3 h4 h5 h6 h7 h8 h9
    rw [eq_accept_iff]
    gen_validate_unfold
    simp only [gen_outcome]
    simp only [Op2.Gen.Validate.shl, castS32_u16 bits h7, Int.toNat_natCast]
    have hp := two_pow_le_256 bits
    rw [two_pow_natCast]
    generalize 2 ^ bits = pw at *
    omega

theorem C08_gen_validate_1 : ImageHeader_Validate_translated = true →
    ∀ (hs : Nat) (w ht : Int) (pl used imp : Nat), ValidateAgrees hs w ht pl 1 used imp :=
  fun h hs w ht pl used imp => C08_gen_validate_all h hs w ht pl 1 used imp
theorem C08_gen_validate_4 : ImageHeader_Validate_translated = true →
    ∀ (hs : Nat) (w ht : Int) (pl used imp : Nat), ValidateAgrees hs w ht pl 4 used imp :=
  fun h hs w ht pl used imp => C08_gen_validate_all h hs w ht pl 4 used imp
theorem C08_gen_validate_8 : ImageHeader_Validate_translated = true →
    ∀ (hs : Nat) (w ht : Int) (pl used imp : Nat), ValidateAgrees hs w ht pl 8 used imp :=
  fun h hs w ht pl used imp => C08_gen_validate_all h hs w ht pl 8 used imp
theorem C08_gen_validate_other : ImageHeader_Validate_translated = true →
    ∀ (hs : Nat) (w ht : Int) (pl bits used imp : Nat), bits ≠ 1 ∧ bits ≠ 4 ∧ bits ≠ 8 → ValidateAgrees hs w ht pl bits used imp :=
  fun h hs w ht pl bits used imp _ => C08_gen_validate_all h hs w ht pl bits used imp

/-- `ImageHeader::Validate` (with `VerifyValidBitCount`, `VerifyDimensions`, `CalcMaxIndexedPaletteSize` as it calls them): it
    returns exactly on the headers the model calls `Valid`, for every value of the seven fields it reads -/
theorem C08_gen_imageHeader_validate : ImageHeader_Validate_translated = true →
    ∀ h : ImageHeader, h.headerSize < W32 → I32_MIN ≤ h.width → h.width ≤ I32_MAX → I32_MIN ≤ h.height → h.height ≤ I32_MAX →
      h.planes < W16 → h.bitCount < W16 → h.used < W32 → h.important < W32 →
      ImageHeader_Validate h.headerSize h.width h.height h.planes h.bitCount h.used h.important = returns (decide h.Valid) := by
  gen_bridge hflag =>
    intro h
    obtain ⟨hs, w, ht, pl, bits, comp, isz, xr, yr, used, imp⟩ := h
    simp only [ImageHeader.Valid, I32_MIN, I32_MAX, W16, W32, sizeImageHeader, validBitCounts, List.mem_cons, List.mem_nil_iff, or_false,
      returns_decide]
    exact C08_gen_validate_all hflag hs w ht pl bits used imp

/-- `BitmapFile::VerifyPixelSizeMatchesImageDimensionsWithPitch(bitCount, width, height, n)` composed with the translated
    `CalculatePitch`: wherever the model sees no fault (`height ≠ INT32_MIN`, where `std::abs` is undefined) it returns
    exactly when the model's `verifyPixelSize` does — same pitch, same product in `size_t` -/
theorem C08_gen_verifyPixelSize :
    (BitmapFile_VerifyPixelSize_translated && Op2.Gen.Formulas.gen_CalcPixelByteWidth_translated) = true →
    ∀ (bits : Nat) (w h : Int) (n : Nat), bits < W16 → I32_MIN ≤ w → w ≤ I32_MAX → I32_MIN ≤ h → h ≤ I32_MAX → n < W64 →
      (verifyPixelSize bits w h n).isFault = false →
      BitmapFile_VerifyPixelSize bits w h n = returns (verifyPixelSize bits w h n).isOk := by
  gen_bridge =>
    intro bits w h n hb hw1 hw2 hh1 hh2 hn
    have hp := gen_CalculatePitch_eq bits w hb (by decide)
    simp only [verifyPixelSize, absI32]
    by_cases hm : h = I32_MIN
    · simp only [if_pos hm, Out.isFault]; intro hf; exact absurd hf (by decide)
    · intro _
      simp only [if_neg hm, isOk_ite, returns_decide]
      rw [eq_accept_iff]
      gen_validate_unfold
      simp only [gen_outcome, hp]
      -- the row count as the code converts it is `|h|`; then the one product is an atom
      have habs : (if h < 0 then (-h + 2147483648) % 4294967296 - 2147483648 else h) % 18446744073709551616 = (h.natAbs : Int) := by
        simp only [I32_MIN, I32_MAX] at *
        split <;> omega
      simp only [habs, ← Int.natCast_mul, W64]
      generalize pitch bits w * h.natAbs = pa
      simp only [W64] at hn
      omega

/-- `BitmapFile::VerifyIndexedPaletteSizeDoesNotExceedBitCount(bitCount, paletteSize)`: the model's `verifyPalette` -/
theorem C08_gen_verifyPaletteSize : BitmapFile_VerifyIndexedPaletteSize_translated = true →
    ∀ f : Bmp, f.ih.bitCount < W16 → f.palette.length < W64 →
      BitmapFile_VerifyIndexedPaletteSize f.ih.bitCount f.palette.length = returns (verifyPalette f).isOk := by
  gen_bridge =>
    intro f
    simp only [verifyPalette, W16, W64, isOk_ite, returns_decide]
    generalize f.palette.length = n
    generalize f.ih.bitCount = bits
    intro hb hn
    rw [eq_accept_iff]
    gen_validate_unfold
    simp only [gen_outcome]
    simp only [Op2.Gen.Validate.shl, castS32_u16 bits hb, Int.toNat_natCast]
    have hp := two_pow_le_256 bits
    rw [two_pow_natCast]
    generalize 2 ^ bits = pw at *
    omega

/-- `BitmapFile::VerifyIndexedImageForSerialization(bitCount)`: the guard `bitCount ≤ 8` of the model's reader
    (`Rd.imageHeader`) and writer (`write`) -/
theorem C08_gen_verifyIndexedForSerialization : BitmapFile_VerifyIndexedImageForSerialization_translated = true →
    ∀ bits : Nat, bits < W16 →
      BitmapFile_VerifyIndexedImageForSerialization bits = returns (decide (bits ≤ 8)) := by
  gen_bridge =>
    intro bits
    simp only [W16, returns, decide_eq_true_eq]
    intro hb
    gen_validate_unfold
    (try simp only [gen_norm] at *)
    gen_close

end Op2.Props.C08
