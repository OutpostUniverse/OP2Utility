import Op2Proofs.Gen.Validate
/-!
# C11 — bridging lemma: the two argument checks of `ImageHeader::Create` (`VerifyValidBitCount`, `VerifyDimensions`,
`src/Bitmap/ImageHeader.cpp`), as translated from the current C++ on this run, refuse exactly what the model's
`ImageHeader.create` refuses — in particular a negative width and the height `INT32_MIN`, the two values on which the
no-fault theorems of `C11_Bmp.lean` rest (`std::abs(INT32_MIN)`, `height *= -1`).
-/
set_option linter.unusedSimpArgs false
namespace Op2.Props.C11
open Op2 Op2.Bmp Op2.GenBridge Op2.GenValidate
open Op2.Gen.Validate

theorem C11_gen_create_guards :
    (ImageHeader_VerifyValidBitCount_translated && ImageHeader_VerifyDimensions_translated) = true →
    ∀ (bits : Nat) (w h : Int), bits < W16 → I32_MIN ≤ w → w ≤ I32_MAX → I32_MIN ≤ h → h ≤ I32_MAX →
      ((ImageHeader_VerifyValidBitCount bits).bind fun _ => ImageHeader_VerifyDimensions w h) =
        returns (ImageHeader.create w h bits).isOk := by
  gen_bridge =>
    intro bits w h h1 h2 h3 h4 h5
    have e : (ImageHeader.create w h bits).isOk = decide (bits ∈ validBitCounts ∧ 0 ≤ w ∧ h ≠ I32_MIN) := by
      simp only [ImageHeader.create]
      split <;> simp [Except.isOk, Except.toBool, *]
    rw [e, returns_decide, eq_accept_iff]
    simp only [validBitCounts, List.mem_cons, List.mem_nil_iff, or_false, W16, I32_MIN, I32_MAX] at *
    gen_validate_unfold
    simp only [gen_outcome]
    (try simp only [gen_norm] at *)
    omega

end Op2.Props.C11
