import Op2Model.Gen.Streams
import Op2Proofs.Gen.Bridge
import Op2Proofs.Stream.Writer
/-!
# C14 — bridging lemmas: the guards and cursor updates of `MemoryWriter` and `DynamicMemoryWriter`, as translated from
the current C++ on this run (`Op2Model/Gen/Streams.lean`), are those of the hand-written models `MemW.*` / `DynW.*`
for which the theorems of `C14.lean` are proved.  Arguments range over all of `[0, 2^64)`; the object is any state
satisfying the invariant the refinement maintains (`MemW.Inv`: `pos ≤ length < 2^64`).
-/
set_option linter.unusedSimpArgs false
namespace Op2.Props.C14
open Op2 Op2.Stream Op2.GenBridge
open Op2.Gen.Streams

theorem C14_gen_memw_seek : MemoryWriter_Seek_translated = true →
    ∀ (s : MemW) (p : Nat), s.Inv → p < W64 →
      MemoryWriter_Seek s.buf.length s.pos p = okOr (fun s' : MemW => (s'.pos : Int)) (MemW.seek s p) := by
  gen_bridge =>
    intro s p hi hk
    obtain ⟨hi, hl⟩ := hi
    simp only [MemW.seek]
    split <;> simp only [okOr_ok, okOr_error] <;>
    simp only [MemoryWriter_Seek, u64, W64] at * <;> gen_close

/-- `SeekForward` = wrap-free guard, then `Seek(this->offset + offset)` -/
theorem C14_gen_memw_fwd : (MemoryWriter_SeekForward_translated && MemoryWriter_Seek_translated) = true →
    ∀ (s : MemW) (d : Nat), s.Inv → d < W64 →
      MemoryWriter_SeekForward s.buf.length s.pos d = okOr (fun s' : MemW => (s'.pos : Int)) (MemW.fwd s d) := by
  gen_bridge =>
    intro s d hi hk
    obtain ⟨hi, hl⟩ := hi
    simp only [MemW.fwd, MemW.seek]
    (repeat' split) <;> simp only [okOr_ok, okOr_error] <;>
    simp only [MemoryWriter_SeekForward, MemoryWriter_Seek, bind_ite, bind_none', bind_some', u64, W64] at * <;> gen_close

theorem C14_gen_memw_back : (MemoryWriter_SeekBackward_translated && MemoryWriter_Seek_translated) = true →
    ∀ (s : MemW) (d : Nat), s.Inv → d < W64 →
      MemoryWriter_SeekBackward s.buf.length s.pos d = okOr (fun s' : MemW => (s'.pos : Int)) (MemW.back s d) := by
  gen_bridge =>
    intro s d hi hk
    obtain ⟨hi, hl⟩ := hi
    simp only [MemW.back, MemW.seek]
    (repeat' split) <;> simp only [okOr_ok, okOr_error] <;>
    simp only [MemoryWriter_SeekBackward, MemoryWriter_Seek, bind_ite, bind_none', bind_some', u64, W64] at * <;> gen_close

/-- `WriteImplementation`: same refusal; on success the new offset, and the `memcpy` destination offset and length are
    the model's `pos'`, `pos`, `|b|` — the model patches exactly `b.length` bytes of the buffer at `pos` -/
theorem C14_gen_memw_write : MemoryWriter_WriteImplementation_translated = true →
    ∀ (s : MemW) (b : Bytes), s.Inv → b.length < W64 →
      MemoryWriter_WriteImplementation s.buf.length s.pos b.length =
        okOr (fun s' : MemW => ((s'.pos : Int), (s.pos : Int), (b.length : Int))) (MemW.write s b) := by
  gen_bridge =>
    intro s b hi hk
    obtain ⟨hi, hl⟩ := hi
    simp only [MemW.write]
    split <;> simp only [okOr_ok, okOr_error] <;>
    simp only [MemoryWriter_WriteImplementation, u64, W64] at * <;> gen_close

/-! ## DynamicMemoryWriter (`streamBuffer.size()` is the position; `resize(n, 0)` is the only effect) -/

/-- `SeekForward`: refused (bounds) exactly when the model refuses for bounds; otherwise `resize(size + offset, 0)`
    — the allocation failure of `resize` itself is inside the vector and not part of the translated fragment -/
theorem C14_gen_dynw_fwd : DynamicMemoryWriter_SeekForward_translated = true →
    ∀ (s : DynW) (d : Nat), s.content.length < W64 → d < W64 →
      (DynamicMemoryWriter_SeekForward s.content.length d = none ↔ DynW.fwd s d = .error .bounds) ∧
      (DynamicMemoryWriter_SeekForward s.content.length d = none ∨
        DynamicMemoryWriter_SeekForward s.content.length d = some (((s.content.length + d : Nat) : Int), 0)) ∧
      (∀ s', DynW.fwd s d = .ok s' → s'.content.length = s.content.length + d) := by
  gen_bridge =>
    intro s d hl hd
    simp only [DynW.fwd]
    refine ⟨?_, ?_, ?_⟩
    · (repeat' split) <;>
      simp only [reduceCtorEq, Except.error.injEq, iff_true, iff_false] <;>
      simp only [DynamicMemoryWriter_SeekForward, u64, W64] at * <;> gen_close
    · -- where the model's bounds test refuses, `none`; elsewhere the `resize` values
      by_cases hg : d > W64 - 1 - s.content.length
      · left
        simp only [DynamicMemoryWriter_SeekForward, u64, W64] at *
        gen_close
      · right
        simp only [DynamicMemoryWriter_SeekForward, u64, W64] at *
        gen_close
    · intro s' h
      split at h
      · cases h
      · split at h
        · cases h
        · cases h
          simp only [List.length_append, zeros, List.length_replicate]

theorem C14_gen_dynw_back : DynamicMemoryWriter_SeekBackward_translated = true →
    ∀ (s : DynW) (d : Nat), s.content.length < W64 → d < W64 →
      DynamicMemoryWriter_SeekBackward s.content.length d =
        okOr (fun s' : DynW => ((s'.content.length : Int), (0 : Int))) (DynW.back s d) := by
  gen_bridge =>
    intro s d hl hd
    simp only [DynW.back]
    split <;> simp only [okOr_ok, okOr_error, List.length_take] <;>
    simp only [DynamicMemoryWriter_SeekBackward, u64, W64] at * <;> gen_close

/-- `Seek(p)` has no guard of its own: `resize(p, 0)` -/
theorem C14_gen_dynw_seek : DynamicMemoryWriter_Seek_translated = true →
    ∀ (len p : Nat), len < W64 → p < W64 →
      DynamicMemoryWriter_Seek len p = some ((p : Int), 0) := by
  gen_bridge =>
    intro len p hl hp
    simp only [DynamicMemoryWriter_Seek, u64, W64] at *
    gen_close

/-- `WriteImplementation`: `resize(size + n)`, then `n` bytes copied to offset `size` — the model appends -/
theorem C14_gen_dynw_write : DynamicMemoryWriter_WriteImplementation_translated = true →
    ∀ (s : DynW) (b : Bytes), s.content.length + b.length < W64 →
      DynamicMemoryWriter_WriteImplementation s.content.length b.length =
        some (((DynW.write s b).content.length : Int), (s.content.length : Int), (b.length : Int)) := by
  gen_bridge =>
    intro s b hl
    simp only [DynW.write, List.length_append, DynamicMemoryWriter_WriteImplementation, u64, W64] at *
    gen_close

end Op2.Props.C14
