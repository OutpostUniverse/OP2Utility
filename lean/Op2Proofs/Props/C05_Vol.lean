import Op2Model.Vol
import Op2Model.Gen.Layout
import Op2Proofs.Vol.Safety
/-!
# C05 (VOL part) — the VOL reader is safe on arbitrary bytes

* opening arbitrary bytes never faults (`C05_open_no_fault`); what is opened satisfies `View.Inv` (`C05_open_inv`);
* no call on an opened archive, after any history of calls, faults (`C05_calls_no_fault`, `C05_no_fault`);
* the answer of a call depends on the parsed archive only, never on the shared reader's position, and a call —
  failed or not — leaves every later answer unchanged (`C05_history_independent`, `C05_failed_call_is_noop`);
* a delivered stream is exactly the stored extent, an extent that leaves the file is refused
  (`C05_stream_exact`, `C05_stream_never_short`);
* the pinned code does fault, on concrete witnesses (D6, D7), where the repaired code opens resp. refuses.
-/
namespace Op2.Vol
open Op2

theorem C05_gen_entrySize : Gen.Layout.size_VolIndexEntry = entrySize := by decide
theorem C05_gen_secSize : Gen.Layout.size_VolSectionHeader = secSize := by decide

/-- one member `a.txt` = "hello"; the `voli` length field says 15 (one entry and one byte) -/
def witnessD6 : Bytes :=
  [86, 79, 76, 32, 52, 0, 0, 128,          -- "VOL " 0x34
   118, 111, 108, 104, 0, 0, 0, 128,       -- "volh" 0
   118, 111, 108, 115, 12, 0, 0, 128,      -- "vols" 12
   6, 0, 0, 0,                             -- actual name-table length
   97, 46, 116, 120, 116, 0,               -- "a.txt\0"
   0, 0,
   118, 111, 108, 105, 15, 0, 0, 128,      -- "voli" 15
   0, 0, 0, 0,  60, 0, 0, 0,  5, 0, 0, 0,  0, 1,
   0, 0,
   86, 66, 76, 75, 5, 0, 0, 128,           -- "VBLK" 5
   104, 101, 108, 108, 111,                -- "hello"
   0, 0, 0]

/-- two valid entries, but the actual name-table length 6 covers only the first name -/
def witnessD7 : Bytes :=
  [86, 79, 76, 32, 68, 0, 0, 128,          -- "VOL " 0x44
   118, 111, 108, 104, 0, 0, 0, 128,       -- "volh" 0
   118, 111, 108, 115, 16, 0, 0, 128,      -- "vols" 16
   6, 0, 0, 0,                             -- actual name-table length: the first name only
   97, 46, 116, 120, 116, 0,               -- "a.txt\0"
   66, 46, 98, 105, 110, 0,                -- "B.bin\0"
   118, 111, 108, 105, 28, 0, 0, 128,      -- "voli" 28
   0, 0, 0, 0,  76, 0, 0, 0,  5, 0, 0, 0,  0, 1,
   6, 0, 0, 0,  92, 0, 0, 0,  7, 0, 0, 0,  0, 1,
   86, 66, 76, 75, 5, 0, 0, 128,           -- "VBLK" 5
   104, 101, 108, 108, 111,                -- "hello"
   0, 0, 0,
   86, 66, 76, 75, 7, 0, 0, 128,           -- "VBLK" 7
   49, 50, 51, 52, 53, 54, 55,             -- "1234567"
   0]

/-- `witnessD6` cut off two bytes into the payload of its only block -/
def witnessShort : Bytes := witnessD6.take 70

/-- what the repaired code makes of `witnessD6` -/
def viewD6 : View :=
  { file := witnessD6, names := [[97, 46, 116, 120, 116]],
    entries := [{ nameOff := 0, dataOff := 60, size := 5, comp := 256 }], count := 1 }

theorem open_witnessD6 : Vol.open witnessD6 = .ok viewD6 := by rfl

/-- what any version makes of the header of `witnessShort` -/
def viewShort : View := { viewD6 with file := witnessShort }

theorem open_witnessShort : Vol.open witnessShort = .ok viewShort := by rfl

/-- what the pinned code makes of `witnessD7` -/
def viewD7 : View :=
  { file := witnessD7, names := [[97, 46, 116, 120, 116]],
    entries := [{ nameOff := 0, dataOff := 76, size := 5, comp := 256 },
                { nameOff := 6, dataOff := 92, size := 7, comp := 256 }], count := 2 }

theorem pinned_open_witnessD7 : openWith Cfg.pinned witnessD7 = .ok viewD7 := by rfl

theorem C05_open_inv (b : Bytes) (v : View) (h : Vol.open b = .ok v) : v.Inv ∧ v.file = b := by
  obtain ⟨w, a, rfl⟩ := openWith_eq_ok.mp h
  exact ⟨⟨a.named rfl, countValid_le _⟩, rfl⟩

example : ∃ v, Vol.open witnessD6 = .ok v ∧ v.Inv ∧ v.count = 1 :=
  ⟨viewD6, open_witnessD6, (C05_open_inv _ _ open_witnessD6).1, rfl⟩

theorem C05_open_no_fault (b : Bytes) (f : Fault) : Vol.open b ≠ .error (.fault f) := openWith_fixed_noFault b f

/-- both other outcomes occur: an ordinary error, and success -/
example : Vol.open [] = .error (.err .format) ∧ Vol.open (witnessD6.take 59) = .error (.err .format)
    ∧ ∃ v, Vol.open witnessD6 = .ok v :=
  ⟨by rfl, by rfl, viewD6, open_witnessD6⟩

theorem C05_calls_no_fault (v : View) (hv : v.Inv) (r : Nat) (op : Op) (f : Fault) :
    (Obj.step { view := v, rpos := r } op).1 ≠ .fail (.fault f) := step_noFault v hv r op f

theorem C05_no_fault (b : Bytes) (v : View) (h : Vol.open b = .ok v) (r : Nat) (ops : List Op) (f : Fault) :
    Res.fail (.fault f) ∉ Obj.run { view := v, rpos := r } ops := run_noFault v (C05_open_inv b v h).1 ops f _ rfl

/-- a history with good and bad calls: the bad ones are ordinary errors -/
example : Obj.run { view := viewD6, rpos := 0 }
      [.count, .name 0, .name 1, .size 0, .kind 0, .index [65, 46, 84, 88, 84], .index [98], .contains [98],
       .stream 0, .stream 7, .streamByName [97, 46, 116, 120, 116], .extract 0]
    = [.num 1, .bytes [97, 46, 116, 120, 116], .fail (.err .bounds), .num 5, .num 256, .num 0, .fail (.err .format),
       .num 0, .bytes [104, 101, 108, 108, 111], .fail (.err .bounds), .bytes [104, 101, 108, 108, 111],
       .bytes [104, 101, 108, 108, 111]] := by rfl

/-- the invariant is needed: on a view that violates it (what the pinned code builds from `witnessD7`) a call faults -/
example : ∃ v : View, ¬ v.Inv ∧ (Obj.step { view := v, rpos := 0 } (.name 1)).1 = .fail (.fault .vecIndex) :=
  ⟨{ file := [], names := [[97]], entries := [], count := 2 }, by decide, by rfl⟩

theorem C05_history_independent (o : Obj) (r : Nat) (op : Op) :
    (Obj.step { o with rpos := r } op).1 = (o.step op).1 := step_rpos_irrelevant o r op

theorem C05_failed_call_is_noop (o : Obj) (op : Op) (ops : List Op) :
    Obj.run (o.step op).2 ops = Obj.run o ops := run_view_only ops _ _ (step_view o op)

/-- the reader position does move (so the statements are not about a constant object): after a successful and
    after a failed block access it differs from where it started -/
example : ((Obj.step { view := viewD6, rpos := 0 } (.stream 0)).2.rpos = 68) ∧
    (∃ v, Vol.open witnessShort = .ok v ∧ (Obj.step { view := v, rpos := 0 } (.extract 0)).1 = .fail (.err .bounds)
      ∧ (Obj.step { view := v, rpos := 0 } (.extract 0)).2.rpos = 68) :=
  ⟨by rfl, viewShort, open_witnessShort, by rfl, by rfl⟩

theorem C05_stream_exact (v : View) (i : Nat) (b : Bytes) (h : v.stream i = .ok b) :
    ∃ e, i < v.count ∧ v.entries[i]? = some e ∧ e.dataOff + 8 ≤ v.file.length ∧
      (let len := decU32 (v.file.drop (e.dataOff + 4)) % padFlag
       e.dataOff + 8 + len ≤ v.file.length ∧ b = (v.file.drop (e.dataOff + 8)).take len ∧ b.length = len) := by
  obtain ⟨e, he, h8, -, -, hl, rfl⟩ := View.stream_eq_ok.mp h
  obtain ⟨hi, he⟩ := View.entry_eq_ok.mp he
  refine ⟨e, hi, he, h8, hl, rfl, ?_⟩
  rw [List.length_take, List.length_drop]
  omega

example : ∃ v, Vol.open witnessD6 = .ok v ∧ v.stream 0 = .ok [104, 101, 108, 108, 111] :=
  ⟨viewD6, open_witnessD6, by rfl⟩

theorem C05_stream_never_short (v : View) (i : Nat) (e : Entry) (he : v.entries[i]? = some e) (hi : i < v.count)
    (hout : v.file.length < e.dataOff + 8 + decU32 (v.file.drop (e.dataOff + 4)) % padFlag) :
    ∃ x, v.stream i = .error (.err x) := by
  have hent := View.entry_eq_ok.mpr ⟨hi, he⟩
  cases hs : v.stream i with
  | ok b =>
    obtain ⟨e', he', -, -, -, hl, -⟩ := View.stream_eq_ok.mp hs
    cases hent.symm.trans he'
    omega
  | error x =>
    cases x with
    | err x => exact ⟨x, rfl⟩
    | fault f => exact absurd hs (View.stream_noFault (hent ▸ noFault_ok e) f)

/-- the hypotheses on a damaged archive: the block header is there, the payload is cut short -/
example : ∃ v e, Vol.open witnessShort = .ok v ∧ v.entries[0]? = some e ∧ 0 < v.count ∧
    e.dataOff + 8 ≤ v.file.length ∧
    v.file.length < e.dataOff + 8 + decU32 (v.file.drop (e.dataOff + 4)) % padFlag ∧
    v.stream 0 = .error (.err .bounds) :=
  ⟨viewShort, _, open_witnessShort, rfl, by decide, by decide, by decide, by rfl⟩

/-- … and on one where the block header itself is beyond the end -/
example : ∃ v e, Vol.open (witnessD6.take 62) = .ok v ∧ v.entries[0]? = some e ∧ 0 < v.count ∧
    v.file.length < e.dataOff + 8 ∧ v.stream 0 = .error (.err .bounds) :=
  ⟨{ viewD6 with file := witnessD6.take 62 }, _, by rfl, rfl, by decide, by decide, by rfl⟩

/-- D6: the whole `voli` section (15 bytes) is copied into a buffer of whole entries (14 bytes) -/
theorem C05_pinned_D6_faults : openWith Cfg.pinned witnessD6 = .error (.fault .oobWrite) := by rfl

theorem C05_fixed_D6_opens : ∃ v, Vol.open witnessD6 = .ok v ∧ v.count = 1 :=
  ⟨viewD6, open_witnessD6, rfl⟩

/-- D7: two valid entries, one name: the pinned code opens the archive and `GetName(1)` indexes past the vector -/
theorem C05_pinned_D7_faults : ∃ v, openWith Cfg.pinned witnessD7 = .ok v ∧ v.name 1 = .error (.fault .vecIndex) :=
  ⟨viewD7, pinned_open_witnessD7, by rfl⟩

theorem C05_fixed_D7_refuses : Vol.open witnessD7 = .error (.err .format) := by rfl

/-- the view the pinned code builds from `witnessD7` violates the invariant (which is why `C05_calls_no_fault`
    does not apply to it); everything else about it is in order: both streams are delivered -/
example : ∃ v, openWith Cfg.pinned witnessD7 = .ok v ∧ ¬ v.Inv ∧ v.count = 2 ∧ v.names.length = 1 ∧
    v.stream 1 = .ok [49, 50, 51, 52, 53, 54, 55] :=
  ⟨viewD7, pinned_open_witnessD7, by decide, rfl, rfl, by rfl⟩

end Op2.Vol
