import Op2Proofs.Gen.Bits
import Op2Proofs.Props.C04
/-!
# C04 — bridging lemmas: the index arithmetic of `HuffLZ`, as translated from the current C++ on this run
(`Op2Model/Gen/Bits.lean`, generator `extract/gen_bits.py`), is that of the model functions of `Op2Model/Lzh.lean` for which the
theorems of `C04.lean` are proved (the bit reader: `C04_GenBits.lean`).
-/
set_option linter.unusedSimpArgs false
namespace Op2.Props.C04
open Op2 Op2.Huff Op2.Lzh Op2.GenBridge Op2.GenBits
open Op2.Gen.Bits

/-- `GetRepeatOffset`: with `o` = the value `ReadNext8Bits` returned and `o2` = the local `offset` after the extra-bit loop, the
    function returns `upper(o) * 64 + o2 % 64` — the model's `repeatOffset` (`(up * 64 + o2 % 64, p2)`) -/
theorem C04_gen_repeatOffset : (HuffLZ_GetRepeatOffset_translated && Gen.Formulas.gen_GetOffsetModifiers_translated) = true →
    ∀ (o o2 : Nat), o < 256 → o2 < 2 ^ 32 →
      HuffLZ_GetRepeatOffset o o2 = some ((((offsetMods o).2 * 64 + o2 % 64 : Nat)) : Int) := by
  gen_bridge h =>
    intro o o2 ho ho2
    simp only [Bool.and_eq_true] at h
    have hm := C04_gen_offsetModifiers h.2 o ho
    have hu := offsetMods_up o ho
    have e : ((o : Int) % 4294967296) = Int.ofNat o := by simp only [Int.ofNat_eq_natCast]; omega
    simp only [HuffLZ_GetRepeatOffset, e, hm]
    bits_norm
    try rw [or_disj 6]
    all_goals gen_close

/-- the model's `repeatOffset` is that formula on the two bit-reader results -/
theorem C04_repeatOffset_shape (data : Array UInt8) (p : Nat) :
    (repeatOffset data p).1 =
      (offsetMods (read8 data p).1).2 * 64 +
        (readExtra data (offsetMods (read8 data p).1).1 (read8 data p).1 (read8 data p).2).1 % 64 := rfl

theorem C04_gen_writeChar : HuffLZ_WriteCharToBuffer_translated = true →
    ∀ (buf : Array UInt8) (w : Nat) (c : UInt8), w < N →
      HuffLZ_WriteCharToBuffer w c.toNat = some (((put buf w c).2 : Int), (w : Int), (c.toNat : Int)) ∧
      (put buf w c).1 = buf.setIfInBounds w c := by
  gen_bridge =>
    intro buf w c hw
    refine ⟨?_, rfl⟩
    simp only [HuffLZ_WriteCharToBuffer, put, N] at *
    bits_norm
    gen_close

theorem C04_gen_fill_guard : HuffLZ_FillDecompressBuffer_translated = true → Gen.Constants.huff_maxFill_scraped = true →
    ∀ (st : St), st.w < N → st.r < N →
      HuffLZ_FillDecompressBuffer st.w st.r (if st.eos then 1 else 0) =
        some (if st.eos then -1 else if st.unread < maxFill then 1 else 0) := by
  gen_bridge =>
    intro _ st hw hr
    simp only [HuffLZ_FillDecompressBuffer, St.unread, maxFill, Gen.Constants.huff_maxFill, N] at *
    bits_norm
    cases st.eos <;> simp only [Bool.false_eq_true, if_true, if_false]
    all_goals gen_close

theorem C04_gen_getInternal : HuffLZ_GetInternalBuffer_translated = true →
    ∀ (st : St), st.w < N → st.r < N →
      HuffLZ_GetInternalBuffer st.w st.r =
        some ((st.r : Int), ((if st.w < st.r then N - st.r else st.w - st.r : Nat) : Int),
              (((st.r + (if st.w < st.r then N - st.r else st.w - st.r)) % N : Nat) : Int)) := by
  gen_bridge =>
    intro st hw hr
    simp only [HuffLZ_GetInternalBuffer, N] at *
    bits_norm
    gen_close

/-! `HuffLZ::CopyAvailableData`, the copy half of `GetData`: the generated definition records, per `memcpy` in path order,
destination offset, source offset and length (`-1` when that `memcpy` is not performed), the new `m_BuffReadIndex` and the
returned count. -/

/-- the index / length content of a result of the generated `CopyAvailableData` (`w`, `r` the indices before the call) -/
def CopyExtents (w r size : Nat) : Option (Int × Int × Int × Int × Int × Int × Int × Int) → Prop
  | none => False
  | some (ret, r', d0, s0, l0, d1, s1, l1) =>
      ret = ((min size ((w + N - r) % N) : Nat) : Int) ∧
      r' = (((r + min size ((w + N - r) % N)) % N : Nat) : Int) ∧
      l0.toNat + l1.toNat = min size ((w + N - r) % N) ∧
      (0 < l0 → d0 = 0 ∧ s0 = (r : Int) ∧ s0 + l0 ≤ (N : Int)) ∧
      (0 < l1 → d1 = (l0.toNat : Int) ∧ s1 = (((r + l0.toNat) % N : Nat) : Int) ∧ s1 + l1 ≤ (N : Int))

theorem C04_gen_copyAvailable_extents : HuffLZ_CopyAvailableData_translated = true →
    ∀ (st : St) (size : Nat), st.w < N → st.r < N → size < 2 ^ 64 →
      CopyExtents st.w st.r size (HuffLZ_CopyAvailableData st.w st.r size) := by
  gen_bridge =>
    intro st size hw hr hs
    generalize st.w = w at *
    generalize st.r = r at *
    simp only [HuffLZ_CopyAvailableData, N] at *
    (try simp only [gen_norm] at *)
    -- a `% 2^64` that cannot wrap in its branch is dropped (the discharger sees the conditions of the enclosing `if`s); then
    -- the statement is pushed to the leaves and the whole tree is one linear problem
    simp (disch := omega) only [Int.emod_eq_of_lt]
    simp only [pred_ite (CopyExtents w r size)]
    simp only [CopyExtents, N, true_and, and_true, Int.reduceNeg, Int.reduceLT, false_imp_iff, Int.reduceToNat, Int.toNat_natCast]
    omega

/-- the bytes one recorded `memcpy(dst, &m_DecompressBuffer[src], len)` reads: `len` consecutive bytes from the *linear* offset
    `src` (no wrap-around: `memcpy` knows nothing of the circular buffer); an absent slot (`len = -1`) reads nothing -/
def memcpyBytes (buf : Array UInt8) (src len : Int) : List UInt8 :=
  (List.range len.toNat).map (fun i => buf.getD (src.toNat + i) 0)

theorem memcpyBytes_eq_seg (buf : Array UInt8) (s l : Nat) (h : s + l ≤ N) :
    memcpyBytes buf (s : Int) (l : Int) = seg buf s l := by
  unfold memcpyBytes seg
  simp only [Int.toNat_natCast]
  apply List.map_congr_left
  intro i hi
  rw [List.mem_range] at hi
  rw [Nat.mod_eq_of_lt (by omega)]

theorem memcpyBytes_nonpos (buf : Array UInt8) (s l : Int) (h : l ≤ 0) : memcpyBytes buf s l = [] := by
  unfold memcpyBytes
  rw [Int.toNat_of_nonpos h]; rfl

/-- a second reading of `memcpyBytes`, for the reader: the slice `buf[s, s + l)` of a full-size buffer; no proof uses it -/
theorem memcpyBytes_eq_extract (buf : Array UInt8) (s l : Nat) (hb : buf.size = N) (h : s + l ≤ N) :
    memcpyBytes buf (s : Int) (l : Int) = (buf.extract s (s + l)).toList := by
  unfold memcpyBytes
  simp only [Int.toNat_natCast]
  apply List.ext_getElem
  · simp; omega
  · intro i h1 h2
    simp at h1
    simp [Array.getD, show s + i < buf.size by omega]

/-- a recorded `memcpy` that moves bytes (`0 < l`) from the linear offset `r` inside the buffer reads the window segment at `r` -/
theorem memcpyBytes_slot (buf : Array UInt8) (s l : Int) (r : Nat) (h : 0 < l → s = (r : Int) ∧ s + l ≤ (N : Int)) :
    memcpyBytes buf s l = seg buf r l.toNat := by
  by_cases hl : 0 < l
  · obtain ⟨hs, hb⟩ := h hl
    have : l = ((l.toNat : Nat) : Int) := by omega
    rw [hs, this, memcpyBytes_eq_seg _ _ _ (by omega)]
    simp only [Int.toNat_natCast]
  · rw [memcpyBytes_nonpos _ _ _ (by omega), show l.toNat = 0 by omega]; rfl

/-- **`HuffLZ::CopyAvailableData` as compiled is the model's `copyAvailable`.**  For every window state with indices below `N`
    and every `size_t` request: the returned count is the number of bytes the model delivers, the new `m_BuffReadIndex` is the
    model's, every `memcpy` that moves bytes stays inside the 4096-byte buffer, writes at destination offset `0` (first) /
    directly behind the first (second), and the bytes the two `memcpy` read — in destination order — are the bytes the model
    delivers. -/
theorem C04_gen_copyAvailable : HuffLZ_CopyAvailableData_translated = true →
    ∀ (st : St) (size : Nat), st.w < N → st.r < N → size < 2 ^ 64 →
      ∃ d0 s0 l0 d1 s1 l1 : Int,
        HuffLZ_CopyAvailableData st.w st.r size =
          some ((((copyAvailable st size).1.length : Nat) : Int), (((copyAvailable st size).2.r : Nat) : Int),
                d0, s0, l0, d1, s1, l1) ∧
        (0 < l0 → d0 = 0 ∧ 0 ≤ s0 ∧ s0 + l0 ≤ (N : Int)) ∧
        (0 < l1 → d1 = (l0.toNat : Int) ∧ 0 ≤ s1 ∧ s1 + l1 ≤ (N : Int)) ∧
        memcpyBytes st.buf s0 l0 ++ memcpyBytes st.buf s1 l1 = (copyAvailable st size).1 := by
  intro ht st size hw hr hs
  have hx := C04_gen_copyAvailable_extents ht st size hw hr hs
  rw [copyAvailable_eq st size hw hr]
  simp only [seg_length]
  have hu := unread_eq st
  cases hg : HuffLZ_CopyAvailableData st.w st.r size with
  | none => rw [hg] at hx; exact hx.elim
  | some t =>
    obtain ⟨ret, r', d0, s0, l0, d1, s1, l1⟩ := t
    rw [hg] at hx
    simp only [CopyExtents] at hx
    obtain ⟨h1, h2, h3, h4, h5⟩ := hx
    rw [← hu] at h1 h2 h3
    refine ⟨d0, s0, l0, d1, s1, l1, ?_, ?_, ?_, ?_⟩
    · rw [h1, h2]
    · intro h; have := h4 h; omega
    · intro h; have := h5 h; omega
    · rw [← h3, memcpyBytes_slot _ s0 l0 st.r fun h => (h4 h).2,
        memcpyBytes_slot _ s1 l1 ((st.r + l0.toNat) % N) fun h => (h5 h).2, seg_append]

end Op2.Props.C04
