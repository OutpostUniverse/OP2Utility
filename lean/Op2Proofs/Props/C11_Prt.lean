import Op2Proofs.Prt.Read
import Op2Proofs.Prt.UseFacts
/-!
# C11 (PRT part) — the PRT loader is safe on arbitrary bytes; what it returns is safe to use

The reader model `Prt.readFull` is built from `Reader::Read` (`Parser.take`: all `k` bytes or an error) alone — it has no
raw memory operation, so its only outcomes are a value or an ordinary error.  `Local` makes that precise: the outcome is
a function of the bytes handed out by `take` (nothing beyond the consumed prefix is ever looked at), and cutting into
that prefix is refused.  The follow-up operations index vectors and buffers through checked primitives (`idx`, `slice`)
that return an explicit `Fault`; "safe to use" is the theorem that no `Fault` is reachable on a loaded object.
-/
namespace Op2.Prt
open Op2 Op2.Parser

/-- loading looks at the consumed prefix only: whatever follows it (other data, the end of the buffer) cannot change the
    outcome, i.e. the loader never reads past what `Reader::Read` delivered -/
theorem C11_no_fault_load (b : Bytes) (r : List Bytes × ArtFile) (rest : Bytes) (h : readFull b = .ok (r, rest)) (junk : Bytes) :
    readFull (b.take (b.length - rest.length) ++ junk) = .ok (r, junk) :=
  exact_readFull.local.trailing h junk

/-- proper prefixes of an accepted file (cutting into what was consumed) are always refused -/
theorem C11_prefix_strict (b : Bytes) (a : ArtFile) (h : read b = .ok a) (k : Nat) (hk : k < consumed b) :
    ∃ e, read (b.take k) = .error e := by
  obtain ⟨hs, rest, hr⟩ := read_eq_ok.mp h
  have hc : consumed b = b.length - rest.length := by unfold consumed; rw [hr]
  obtain ⟨e, he⟩ := exact_readFull.local.prefix_refused hr k (by omega)
  exact ⟨e, by unfold read; rw [he]⟩

/-- every object the loader returns is safe to use: sprite extraction by ANY index against ANY pixel file ends in a
    bitmap or an ordinary error, never in a fault (out-of-range `imageMetas[index]`, `palettes[paletteIndex]`, palette
    copy, pixel slice, row pointer of the bitmap writer) -/
theorem C11_no_fault_use (b : Bytes) (a : ArtFile) (h : read b = .ok a) (i : Nat) (pix : Bytes) :
    ∃ r : Except Err Bytes, extractImage a i pix = .ok r :=
  extractImage_noFault (read_wf h).1.palette_length (fun im him => ((read_wf h).2.1 im him).1) i pix

/-- the other public operations: the index check and `Write` are total functions without raw accesses; the counters
    have no fault for in-range indices -/
theorem C11_no_fault_counts (a : ArtFile) (i j : Nat) (hi : i < a.animations.length) (hj : j < a.animations[i].frames.length) :
    frameCount a i = .ok a.animations[i].frames.length ∧ layerCount a i j = .ok (a.animations[i].frames[j]).layers.length :=
  ⟨frameCount_ok hi, layerCount_ok hi hj⟩

/-- an index at or beyond the image count is refused with an ordinary error (for every structure, loaded or not) -/
theorem C11_index (a : ArtFile) (i : Nat) (h : a.imageMetas.length ≤ i) (pix : Bytes) :
    extractImage a i pix = .ok (.error .bounds) := extractImage_index h pix

theorem C11_index_verify (a : ArtFile) (i : Nat) : verifyIndex a i = .ok () ↔ i < a.imageMetas.length := by
  unfold verifyIndex; split <;> simp <;> omega

/-! bridging: the shadow flag is bit 2 of the image type word (measured); it selects the 2- or 256-colour palette copy -/
theorem C11_gen_isShadow : Gen.Layout.mask_ImageType_isShadow = 4 := by decide
theorem C11_gen_palette_entries : Gen.Layout.size_Palette8Bit = 256 * Gen.Layout.size_Color := by decide

/-! non-vacuity: a file with one palette and one 4x2 image loads, extraction of index 0 yields a bitmap, index 1 an error,
    and without the guards the fault is reachable (the primitives are not vacuous) -/
def exArt1 : ArtFile := ⟨[List.replicate 256 ⟨1, 2, 3, 4⟩], [⟨4, 2, 2, 3, 0, 0⟩], [], 0⟩
def outcome (r : FaultM Bytes) : Nat := match r with | .error _ => 0 | .ok (.error _) => 1 | .ok (.ok b) => 2 + b.length
-- a 1100-byte pixel file and a 256-colour palette: evaluated by the kernel, which has no recursion limit to raise
set_option maxRecDepth 100000 in
example : outcome (extractImage exArt1 0 (zeros 1100)) = 2 + 14 + 40 + 1024 + 8 := by decide +kernel
set_option maxRecDepth 100000 in
example : outcome (extractImage exArt1 0 (zeros 1087)) = 1 := by decide +kernel
example : outcome (extractImage exArt1 1 (zeros 1100)) = 1 := by decide
example : idx exArt1.imageMetas 1 = .error .vectorIndex := rfl
example : idx ([] : List Nat) 0 = .error .vectorIndex := rfl
example : slice [1, 2, 3] 2 2 = .error .oobRead := rfl
example : ∃ r, bmpRows [] 0 0 0 5 = .ok r := ⟨_, rfl⟩

end Op2.Prt
