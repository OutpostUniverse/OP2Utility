import Op2Proofs.Prt.Write
import Op2Proofs.Gen.Bits
/-!
# C20 (PRT part) — a frame whose layer list disagrees with its 7-bit count is refused by the writer
-/
namespace Op2.Prt
open Op2

/-- any frame, anywhere in the file, whose recorded count differs from the number of layers makes `Write` fail:
    nothing (in particular no truncated or wrapped count) is returned -/
theorem C20_layer_count_refused (a : ArtFile) (an : Animation) (f : Frame) (han : an ∈ a.animations) (hf : f ∈ an.frames)
    (h : f.layerMeta.count ≠ f.layers.length) : ∃ e, write a = .error e := by
  cases hw : write a with
  | error e => exact ⟨e, rfl⟩
  | ok w => exact absurd (write_ok_counts hw an han f hf) h

/-- in particular a list that is longer by a multiple of 128 (the count it would wrap to) is refused -/
theorem C20_layer_count_no_wrap (a : ArtFile) (an : Animation) (f : Frame) (han : an ∈ a.animations) (hf : f ∈ an.frames)
    (hc : f.layerMeta.count < 128) (h : f.layers.length ≥ 128) : ∃ e, write a = .error e :=
  C20_layer_count_refused a an f han hf (by omega)

/-- converse (non-vacuity): a well-formed structure is written -/
theorem C20_layer_count_accepted (a : ArtFile) (hr : a.Rep) (hrules : rules a) : write a = .ok (encFile a) :=
  (write_eq_ok_of_rep hr _).mpr ⟨hrules, rfl⟩

/-- the first byte of each frame carries exactly the count (below 128) in its low seven bits and the optional-data flag
    in the top bit -/
theorem C20_frame_byte (f : Frame) (hc : f.layerMeta.count < 128) :
    ∃ tail, encFrame f = UInt8.ofNat (f.layerMeta.count + 128 * f.layerMeta.flag.toNat) :: tail ∧
      (UInt8.ofNat (f.layerMeta.count + 128 * f.layerMeta.flag.toNat)).toNat % 128 = f.layerMeta.count := by
  refine ⟨_, rfl, ?_⟩
  rw [UInt8.toNat_ofNat']
  cases f.layerMeta.flag <;> simp <;> omega

/-! bridging: the count is the low 7 bits of the one-byte `LayerMetadata`, the flag its top bit (measured) -/
theorem C20_gen_layerMetadata : Gen.Layout.size_LayerMetadata = 1 ∧ Gen.Layout.mask_LayerMetadata_count = 127 ∧
    Gen.Layout.mask_LayerMetadata_bReadOptionalData = 128 := by decide

theorem C20_gen_metaOfByte : ∀ m < 256, metaOfByte m =
    ⟨m &&& Gen.Layout.mask_LayerMetadata_count, (m &&& Gen.Layout.mask_LayerMetadata_bReadOptionalData) != 0⟩ := by
  intro m hm
  obtain ⟨_, h1, h2⟩ := C20_gen_layerMetadata
  rw [h1, h2, GenBits.and_127, GenBits.and_128, metaOfByte]
  have : m / 128 = 0 ∨ m / 128 = 1 := by omega
  rcases this with h | h <;> simp [h]

theorem C20_gen_metaToByte : ∀ c < 128, ∀ fl : Bool, metaToByte ⟨c, fl⟩ =
    c ||| (if fl then Gen.Layout.mask_LayerMetadata_bReadOptionalData else 0) := by
  intro c hc fl
  rw [C20_gen_layerMetadata.2.2, metaToByte]
  cases fl
  · simp
  · simpa [Nat.add_comm] using (GenBits.or_disj' 7 (a := 128) (b := c) rfl hc).symm

/-- 127 layers with count 127 are written; 128 layers cannot be (no 7-bit count equals 128) -/
def frameN (n c : Nat) : Frame := ⟨⟨c, false⟩, ⟨0, false⟩, 0, 0, 0, 0, List.replicate n ⟨0, 0, 0, 0, 0⟩⟩
def fileN (n c : Nat) : ArtFile := ⟨[], [], [⟨0, 0, 0, 0, 0, 0, 0, 0, [frameN n c], []⟩], 0⟩

theorem C20_limit_127_written : write (fileN 127 127) = .ok (encFile (fileN 127 127)) :=
  (write_eq_ok _ _).mpr ⟨by simp [fileN, frameN, totalFrames, totalLayers, frameLayers, M32], rfl⟩

example : ∀ c < 128, ∃ e, write (fileN 128 c) = .error e := by
  intro c hc
  exact C20_layer_count_no_wrap (fileN 128 c) ⟨0, 0, 0, 0, 0, 0, 0, 0, [frameN 128 c], []⟩ (frameN 128 c) (by simp [fileN]) (by simp) hc
    (by simp [frameN])

end Op2.Prt
