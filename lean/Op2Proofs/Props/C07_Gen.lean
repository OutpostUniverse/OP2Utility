import Op2Model.Map
import Op2Proofs.Gen.Guards
/-!
# C07 (MAP) — the refusal conditions of `Map::ReadMapBeginning` (dimension guard) and `Map::CheckMinVersionTag`, as
regenerated from the current C++ (`Op2Model/Gen/Guards.lean`), are those of the model (`Map.dimsOk`, `minMapVersion ≤ tag`
in `Map.pBeginning` / `Map.pVersionTag`) for ALL `uint32_t` values of the header fields.

The shift count ranges over all of `uint32_t`: for `lg ≥ 32` both sides refuse whatever the second disjunct says (in C++ it
is not evaluated); for each of the 32 remaining counts `2^lg` is a literal and the comparison is linear arithmetic, so
`(uint64(h) << lg) > UINT32_MAX`, `((uint64(h) << lg) >> 32) != 0` and `h > (UINT32_MAX >> lg)` are the same refusal,
while `> 32`, a 32-bit shift or `INT32_MAX` are not.
-/
set_option linter.unusedSimpArgs false
namespace Op2.Props.C07Gen
open Op2 Op2.Map Op2.Gen.Guards Op2.GenTactics Op2.GenGuards

theorem C07_gen_dims_refuses : Map_ReadMapBeginning_guards_translated = true →
    ∀ (lg h : Nat), lg < W32 → h < W32 →
      Map_ReadMapBeginning_refuses lg h = !dimsOk lg h := by
  gen_bridge =>
    intro lg h h1 h2
    unfold dimsOk
    by_cases hl : lg < 32
    · rw [if_pos hl]
      unfold Map_ReadMapBeginning_refuses
      guard_beq
      simp only [u64, W32, W64, Int.toNat_natCast] at *
      -- a literal shift count makes every spelling of the 64-bit test linear
      have hc : lg = 0 ∨ lg = 1 ∨ lg = 2 ∨ lg = 3 ∨ lg = 4 ∨ lg = 5 ∨ lg = 6 ∨ lg = 7 ∨ lg = 8 ∨ lg = 9 ∨ lg = 10 ∨ lg = 11 ∨
          lg = 12 ∨ lg = 13 ∨ lg = 14 ∨ lg = 15 ∨ lg = 16 ∨ lg = 17 ∨ lg = 18 ∨ lg = 19 ∨ lg = 20 ∨ lg = 21 ∨ lg = 22 ∨
          lg = 23 ∨ lg = 24 ∨ lg = 25 ∨ lg = 26 ∨ lg = 27 ∨ lg = 28 ∨ lg = 29 ∨ lg = 30 ∨ lg = 31 := by omega
      clear hl h1
      rcases hc with e | e | e | e | e | e | e | e | e | e | e | e | e | e | e | e | e | e | e | e | e | e | e | e | e | e |
        e | e | e | e | e | e <;> subst e <;> (try simp only [gen_norm] at *) <;> omega
    · rw [if_neg hl]
      unfold Map_ReadMapBeginning_refuses
      guard_beq
      simp only [W32] at *
      (try simp only [gen_norm] at *)
      generalize (2 : Int) ^ (lg : Int).toNat = pw at *
      generalize (2 : Nat) ^ lg = pn at *
      omega

theorem C07_gen_minVersion_refuses : Map_CheckMinVersionTag_guards_translated = true →
    ∀ (t : Nat), t < W32 →
      (Map_CheckMinVersionTag_refuses t = true ↔ ¬ minMapVersion ≤ t) := by
  gen_bridge =>
    intro t h1
    unfold Map_CheckMinVersionTag_refuses
    guard_iff
    simp only [minMapVersion, W32, Op2.Gen.Layout.MinMapVersion] at *
    (try simp only [gen_norm] at *); omega

end Op2.Props.C07Gen
