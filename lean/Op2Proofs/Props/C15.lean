import Op2Proofs.Huff.Code
import Op2Proofs.Huff.Arr
import Op2Proofs.Huff.RefEq
/-!
# C15 — the adaptive Huffman tree stays a valid code on every history
-/
namespace Op2.Props.C15
open Op2 Op2.Huff Op2.Huff.TF

/-- a history of `UpdateCodeCount` calls; the first refused call ends it with an error -/
def runChecked (t : TF) : List Nat → Except Err TF
  | [] => .ok t
  | c :: cs => match updateChecked t c with
    | .ok t' => runChecked t' cs
    | .error e => .error e

/-! ## the invariant holds initially and is preserved by every accepted update -/

theorem C15_wf_init (T : Nat) (hT : 2 ≤ T) : WF (init T) := init_wf hT

theorem C15_wf_step {t t' : TF} {code : Nat} (w : WF t) (h : updateChecked t code = .ok t') :
    WF t' ∧ t'.T = t.T ∧ t'.cnt t'.root = t.cnt t.root + 1 ∧ code < t.T ∧ t.cnt t.root < maxCount := by
  obtain ⟨hc, hcap, rfl⟩ := updateChecked_eq_ok.mp h
  exact ⟨update_wf w hc, update_T t code, by rw [update_root]; exact update_root_cnt w hc, hc, hcap⟩

/-- the counter an accepted history leaves has not passed the capacity: the last update was accepted below it -/
theorem runChecked_ok {t : TF} : ∀ (codes : List Nat) {s : TF}, WF s → runChecked s codes = .ok t →
    WF t ∧ t.T = s.T ∧ t.cnt t.root = s.cnt s.root + codes.length ∧ (codes = [] ∨ t.cnt t.root ≤ maxCount)
  | [], s, w, h => by cases h; exact ⟨w, rfl, rfl, Or.inl rfl⟩
  | c :: cs, s, w, h => by
    rw [runChecked] at h
    split at h
    · next s' e =>
      obtain ⟨w', hT', hc', _, hcap⟩ := C15_wf_step w e
      obtain ⟨w'', hT'', hc'', hle⟩ := runChecked_ok cs w' h
      refine ⟨w'', hT''.trans hT', by rw [hc'', hc', List.length_cons]; omega, Or.inr ?_⟩
      rcases hle with rfl | hle
      · cases h; omega
      · exact hle
    · cases h

/-- every reachable tree is well formed, and its root counter is `T` plus the number of updates -/
theorem C15_wf_reachable (T : Nat) (hT : 2 ≤ T) (codes : List Nat) (t : TF)
    (h : runChecked (init T) codes = .ok t) :
    WF t ∧ t.T = T ∧ t.cnt t.root = T + codes.length := by
  obtain ⟨w, h1, h2, _⟩ := runChecked_ok codes (init_wf hT) h
  exact ⟨w, h1, by rw [h2, init_root_cnt T hT]⟩

/-- **within capacity no counter leaves the 16-bit range**: the ℕ counts of the model are the `unsigned short`
    counts of the implementation -/
theorem C15_counts_fit_16_bits (T : Nat) (hT : 2 ≤ T) (hT2 : T ≤ maxCount) (codes : List Nat) (t : TF)
    (h : runChecked (init T) codes = .ok t) : ∀ i, i < t.n → 1 ≤ t.cnt i ∧ t.cnt i ≤ maxCount := by
  obtain ⟨w, _, h2, h3⟩ := runChecked_ok codes (init_wf hT) h
  have hr : t.cnt t.root ≤ maxCount := by
    rcases h3 with rfl | h3
    · rw [h2, init_root_cnt T hT]; exact hT2
    · exact h3
  exact fun i hi => ⟨w.pos i hi, Nat.le_trans (w.cnt_le_root i hi) hr⟩

/-- capacity: from the initial tree at most `65535 − T` updates are accepted (65 221 for the 314-symbol tree) -/
theorem C15_capacity (T : Nat) (hT : 2 ≤ T) (codes : List Nat) (t : TF)
    (h : runChecked (init T) codes = .ok t) : T + codes.length ≤ maxCount ∨ codes = [] := by
  obtain ⟨_, _, h2, h3⟩ := runChecked_ok codes (init_wf hT) h
  rw [h2, init_root_cnt T hT] at h3
  exact h3.symm

/-! ## refusals leave the tree as it was (the caller keeps the old value: no new tree is produced) -/

theorem C15_refuses (t : TF) (code : Nat) (h : code ≥ t.T ∨ t.cnt t.root ≥ maxCount) :
    updateChecked t code = .error .refused := by
  unfold updateChecked
  rcases h with h | h
  · rw [if_pos h]
  · by_cases h1 : code ≥ t.T
    · rw [if_pos h1]
    · rw [if_neg h1, if_pos h]

/-! ## a well-formed tree is a full binary prefix code over exactly its symbol set -/

/-- the encoder's bit string drives the decoder's walk from the root to that symbol's leaf -/
theorem C15_prefix_code {t : TF} (w : WF t) (code : Nat) (hcode : code < t.T) :
    let leaf := walk t t.root (encode t code)
    leaf < t.n ∧ isLeaf t leaf = true ∧ nodeData t leaf = code ∧ (∀ b ∈ encode t code, b < 2) := by
  intro leaf
  obtain ⟨h1, h2⟩ : leaf < t.n ∧ t.link leaf = code + t.n := decode_encode w.st hcode
  refine ⟨h1, ?_, ?_, encode_bits t code⟩
  · show decide (t.link leaf ≥ t.n) = true
    simp [h2]
  · show t.link leaf - t.n = code
    omega

/-- every node is a leaf holding a symbol or an inner node with two children below it that name it as parent -/
theorem C15_full_binary {t : TF} (w : WF t) (i : Nat) (hi : i < t.n) :
    (t.n ≤ t.link i ∧ t.link i < t.n + t.T) ∨
    (t.link i + 1 < i ∧ t.par (t.link i) = i ∧ t.par (t.link i + 1) = i) := by
  rcases w.st.rng i hi with h | h
  · right; exact ⟨h.2.2, w.st.parL i hi, w.st.parR i hi (by omega)⟩
  · left; exact h

/-- each symbol sits on exactly one leaf -/
theorem C15_symbol_on_one_leaf {t : TF} (w : WF t) (code : Nat) (hcode : code < t.T) :
    ∃ i, i < t.n ∧ t.link i = code + t.n ∧ ∀ j, j < t.n → t.link j = code + t.n → j = i := by
  obtain ⟨h1, h2⟩ := w.st.chC (code + t.n) (by omega) (by omega)
  refine ⟨t.par (code + t.n), h1, h2, ?_⟩
  intro j hj hl
  have := w.st.parL j hj
  rw [hl] at this
  exact this.symm

/-- every node is reachable from the root (by the reversed leaf-to-root bits) -/
theorem C15_all_reachable {t : TF} (w : WF t) (j : Nat) (hj : j < t.n) :
    walk t t.root (up t j t.n).reverse = j :=
  walk_up w.st t.n j hj (root_sub_le t j)

/-- one update: the reference and the modelled update produce the same tables -/
theorem C15_ref {t : TF} (w : WF t) {code : Nat} (hcode : code < t.T) : Ref.update t code = t.update code :=
  ref_update_eq w hcode

/-- a history run through the reference update (same refusals) -/
def runRef (t : TF) : List Nat → Except Err TF
  | [] => .ok t
  | c :: cs =>
    if c ≥ t.T then .error .refused
    else if t.cnt t.root ≥ maxCount then .error .refused
    else runRef (Ref.update t c) cs

/-- every history: the reference run and the modelled run end in the same tree (or are both refused) -/
theorem C15_ref_history (T : Nat) (hT : 2 ≤ T) (codes : List Nat) :
    runRef (init T) codes = runChecked (init T) codes := by
  suffices ∀ (codes : List Nat) (s : TF), WF s → runRef s codes = runChecked s codes from this codes _ (init_wf hT)
  intro codes
  induction codes with
  | nil => intro s _; rfl
  | cons c cs ih =>
    intro s w
    simp only [runRef, runChecked, updateChecked]
    by_cases h1 : c ≥ s.T
    · rw [if_pos h1, if_pos h1]
    · rw [if_neg h1, if_neg h1]
      by_cases h2 : s.cnt s.root ≥ maxCount
      · rw [if_pos h2, if_pos h2]
      · rw [if_neg h2, if_neg h2]
        rw [C15_ref w (by omega)]
        exact ih _ (update_wf w (by omega))

/-! ## the executable array tree (what the drivers run, and the shape of the C++ object) refines all of the above -/

def runCheckedA (a : TA) : List Nat → Except Err TA
  | [] => .ok a
  | c :: cs => match a.updateChecked c with
    | .ok a' => runCheckedA a' cs
    | .error e => .error e

/-- **memory safety of the update**: on a well-formed tree whose tables have the constructor's sizes, every table
    index `UpdateCodeCount` reads or writes lies inside the tables — the bounds-checked array run equals the
    function-level run, sizes are kept -/
theorem C15_array_update_in_bounds (a : TA) (s : a.Sized) (w : WF a.view) (code : Nat) (hcode : code < a.T) :
    (a.update code).view = a.view.update code ∧ (a.update code).Sized ∧ (a.update code).T = a.T :=
  TA.update_view a s w code hcode

theorem runCheckedA_view {a' : TA} : ∀ (codes : List Nat) {a : TA}, a.Sized → WF a.view → runCheckedA a codes = .ok a' →
    runChecked a.view codes = .ok a'.view ∧ a'.Sized
  | [], a, s, _, h => by cases h; exact ⟨rfl, s⟩
  | c :: cs, a, s, w, h => by
    rw [runCheckedA] at h
    have hv := TA.updateChecked_view a s w c
    split at h
    · next a1 e =>
      rw [e] at hv
      rw [runChecked, hv.1]
      exact runCheckedA_view cs hv.2 (C15_wf_step w hv.1).1 h
    · cases h

/-- every tree the array implementation can reach from the constructor is well formed, keeps its table sizes, and
    is the frozen form of the function-level tree of the same history -/
theorem C15_array_reachable (T : Nat) (hT : 2 ≤ T) (codes : List Nat) (a : TA)
    (h : runCheckedA (TA.init T) codes = .ok a) :
    a.Sized ∧ WF a.view ∧ a.T = T ∧ a.view.cnt a.view.root = T + codes.length := by
  obtain ⟨w0, s0, t0⟩ := TA.init_wf T hT
  obtain ⟨hr, sz⟩ := runCheckedA_view codes s0 w0 h
  obtain ⟨w, h1, h2, _⟩ := runChecked_ok codes w0 hr
  exact ⟨sz, w, h1.trans t0, by rw [h2, TA.init_root_cnt T hT]⟩

/-- an out-of-range node index is refused by every query, and a query never changes the tree (it returns no tree) -/
theorem C15_node_refused (a : TA) (node : Nat) (h : node ≥ a.n) (bit : Nat) :
    a.child node bit = .error .bounds ∧ a.isLeaf node = .error .bounds ∧ a.nodeData node = .error .bounds := by
  unfold TA.child TA.isLeaf TA.nodeData
  rw [if_pos h, if_pos h, if_pos h]; exact ⟨rfl, rfl, rfl⟩

/-- in range the queries read the tables -/
theorem C15_node_queries (a : TA) (node : Nat) (h : node < a.n) (bit : Nat) :
    a.child node bit = .ok (a.view.link node + bit) ∧ a.isLeaf node = .ok (TF.isLeaf a.view node) ∧
    a.nodeData node = .ok (TF.nodeData a.view node) := by
  unfold TA.child TA.isLeaf TA.nodeData
  have : ¬ node ≥ a.n := by omega
  rw [if_neg this, if_neg this, if_neg this]; exact ⟨rfl, rfl, rfl⟩

/-- non-vacuity: a concrete history on the array tree is accepted (so the hypotheses above are satisfiable) -/
theorem C15_first_update_accepted (T : Nat) (hT : 2 ≤ T) (hT2 : T < maxCount) (c : Nat) (hc : c < T) :
    ∃ a, runCheckedA (TA.init T) [c] = .ok a := by
  have hr : ¬ ((TA.init T).cnt.getD (TA.init T).root 0 ≥ maxCount) := by
    have := TA.init_root_cnt T hT
    rw [TA.view_cnt, TA.view_root] at this
    rw [this]; omega
  have hc' : ¬ (c ≥ (TA.init T).T) := by show ¬ (c ≥ T); omega
  refine ⟨(TA.init T).update c, ?_⟩
  simp only [runCheckedA, TA.updateChecked]
  rw [if_neg hc', if_neg hr]
example : ∃ a, runCheckedA (TA.init 314) [5] = .ok a :=
  C15_first_update_accepted 314 (by omega) (by decide) 5 (by omega)

/-- non-vacuity: the 314-symbol tree of the format is covered -/
example : (2 : Nat) ≤ 314 ∧ 314 ≤ maxCount := by decide

end Op2.Props.C15
