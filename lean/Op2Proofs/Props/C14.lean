import Op2Proofs.Stream.Writer
import Op2Proofs.Stream.LittleEndian
import Op2Proofs.Stream.TypedReads
import Op2Proofs.Codec
import Op2Proofs.Stream.SysCopy
import Op2Model.Gen.Layout
/-!
# C14 — writers write exactly what the history implies and refuse what does not fit
-/
namespace Op2.Props.C14
open Op2 Op2.Stream

/-- every history: the u64-guarded implementation model equals the ℕ specification -/
theorem C14_fixed_writer_refines (ops : List WOp) (s : MemW) (h : s.Inv) (ha : ∀ op ∈ ops, op.argOk) :
    runW MemW.step s ops = runW MemW.spec s ops := by
  induction ops generalizing s with
  | nil => rfl
  | cons op ops ih =>
    simp only [runW, MemW.step_eq_spec s h op]
    rw [ih _ (MemW.spec_inv s h op) (fun o ho => ha o (by simp [ho]))]

/-- a write or seek that would leave the buffer — including through wrap-around — fails without writing or moving;
    the buffer never changes size -/
theorem C14_fixed_writer_refusal (s : MemW) (h : s.Inv) (op : WOp) :
    (MemW.spec s op).2.buf.length = s.buf.length ∧ ((MemW.spec s op).1 = false → (MemW.spec s op).2 = s) := by
  cases op <;> simp only [MemW.spec] <;> (try split) <;> simp_all [patch_length]

theorem C14_fixed_writer_refuses_iff (s : MemW) :
    (∀ b, (MemW.spec s (.write b)).1 = false ↔ ¬ s.pos + b.length ≤ s.buf.length) ∧
    (∀ p, (MemW.spec s (.seek p)).1 = false ↔ ¬ p ≤ s.buf.length) ∧
    (∀ d, (MemW.spec s (.fwd d)).1 = false ↔ ¬ s.pos + d ≤ s.buf.length) ∧
    (∀ d, (MemW.spec s (.back d)).1 = false ↔ ¬ d ≤ s.pos) := by
  refine ⟨?_, ?_, ?_, ?_⟩ <;> intro x <;> simp only [MemW.spec] <;> split <;> simp_all

/-- a successful write changes exactly the bytes at the implied positions -/
theorem C14_write_touches_only_target (buf : Bytes) (pos : Nat) (b : Bytes) (h : pos + b.length ≤ buf.length) :
    (∀ i, i < pos ∨ pos + b.length ≤ i → (patch buf pos b)[i]? = buf[i]?) ∧
    (∀ i, i < b.length → (patch buf pos b)[pos + i]? = b[i]?) ∧ (patch buf pos b).length = buf.length :=
  ⟨fun i hi => patch_outside buf pos b h i hi, fun i hi => patch_inside buf pos b h i hi, patch_length buf pos b h⟩

/-- non-vacuity: the wrap-around witnesses of the repaired defect are refused by the implementation model -/
example : (MemW.step { buf := [0, 0, 0, 0, 0], pos := 1 } (.fwd (W64 - 1))).1 = false ∧
    (MemW.step { buf := [0, 0, 0, 0, 0], pos := 0 } (.back (W64 - 3))).1 = false := by decide

theorem C14_dynamic_writer (s : DynW) (op : WOp) (hlen : s.content.length ≤ dynCap) (ha : op.argOk) :
    (DynW.step s op).1 = (dynSpec s.content op).1 ∧ (DynW.step s op).2.content = (dynSpec s.content op).2 := by
  have hcap : dynCap < W64 := by decide
  cases op <;> simp only [DynW.step, dynSpec, WOp.argOk] at *
  case write b => simp [DynW.write]
  case seek p =>
    simp only [DynW.seek]
    by_cases c : p > dynCap
    · simp [c]
    · by_cases c2 : p ≤ s.content.length <;> simp [c, c2]
  case fwd d =>
    simp only [DynW.fwd]
    by_cases c0 : d > W64 - 1 - s.content.length
    · have c : s.content.length + d > dynCap := by unfold W64 dynCap at *; omega
      simp [c0, c]
    · by_cases c : s.content.length + d > dynCap <;> simp [c0, c]
  case back d =>
    simp only [DynW.back]
    by_cases c : d ≤ s.content.length
    · have : ¬ d > s.content.length := by omega
      simp [c, this]
    · have : d > s.content.length := by omega
      simp [c, this]
  case seekBegin => simp [DynW.seek]
  case seekEnd =>
    have c0 : ¬ 0 > W64 - 1 - s.content.length := by omega
    have c : ¬ dynCap < s.content.length := by omega
    simp [DynW.fwd, zeros, c0, c]

/-- appends, zero fill on forward seek, truncation on backward seek -/
theorem C14_dynamic_content (c b : Bytes) (d : Nat) :
    (dynSpec c (.write b)).2 = c ++ b ∧
    (c.length + d ≤ dynCap → (dynSpec c (.fwd d)).2 = c ++ zeros d) ∧
    (d ≤ c.length → (dynSpec c (.back d)).2 = c.take (c.length - d)) := by
  refine ⟨rfl, ?_, ?_⟩
  · intro h; simp only [dynSpec]; rw [if_neg (by omega)]
  · intro h; simp only [dynSpec]; rw [if_pos h]

/-- "reading it back returns that content": the reader `GetReader()` hands out over the content (`MemoryReader` model, u64 guards),
    asked for the whole length, returns exactly the content and ends at its end; any longer read is refused without moving -/
theorem C14_dynamic_readback (c : Bytes) (hc : c.length < W64) :
    MemR.step { data := c, pos := 0 } (.read c.length) = (.bytes c, { data := c, pos := c.length }) ∧
    ∀ k, c.length < k → k < W64 → MemR.step { data := c, pos := 0 } (.read k) = (.err, { data := c, pos := 0 }) := by
  have hi : RSpec.Inv ({ data := c, pos := 0 } : RSpec) := ⟨Nat.zero_le _, hc⟩
  constructor
  · rw [mem_refines _ hi (.read c.length) hc]
    simp [RSpec.step, RSpec.window]
  · intro k hk hk64
    rw [mem_refines _ hi (.read k) hk64]
    simp only [RSpec.step, Nat.zero_add]
    rw [if_neg (by omega)]

/-! ## size-prefixed writes refuse containers that do not fit the prefix -/

theorem C14_prefix_refuses (width count : Nat) (signed : Bool) (payload : Bytes) (h : count > prefixMax width signed) :
    writePrefixed width signed payload count = .error .refused := by
  unfold writePrefixed; rw [if_pos h]

theorem C14_prefix_accepts (width count : Nat) (signed : Bool) (payload : Bytes) (h : count ≤ prefixMax width signed) :
    ∃ pre, writePrefixed width signed payload count = .ok (pre ++ payload) ∧ pre.length = width := by
  unfold writePrefixed; rw [if_neg (by omega)]
  exact ⟨_, rfl, by simp⟩

/-- the limits: 255 / 65535 for unsigned one- and two-byte prefixes, 127 / 32767 for signed ones -/
example : prefixMax 1 false = 255 ∧ prefixMax 2 false = 65535 ∧ prefixMax 1 true = 127 ∧ prefixMax 2 true = 32767 := by decide

/-! ## typed writes and typed reads are mutual inverses (the codecs) -/

theorem C14_u16_roundtrip (v : Nat) (h : v < 65536) (rest : Bytes) : decU16 (encU16 v ++ rest) = v :=
  Parser.decU16_encU16 v h rest

theorem C14_u32_roundtrip (v : Nat) (h : v < 4294967296) (rest : Bytes) : decU32 (encU32 v ++ rest) = v :=
  Parser.decU32_encU32 v h rest

/-- every integer width at once (`uint8_t` … `uint64_t` and beyond): the `w` little-endian bytes a typed write emits for
    `v` read back as `v` — and as `v mod 2^(8w)`, nothing else, when `v` does not fit -/
theorem C14_le_roundtrip (w v : Nat) :
    leVal ((List.range w).map (fun i => UInt8.ofNat (v / 2 ^ (8 * i)))) = v % 2 ^ (8 * w) ∧
    (v < 2 ^ (8 * w) → leVal ((List.range w).map (fun i => UInt8.ofNat (v / 2 ^ (8 * i)))) = v) := by
  rw [range_map_eq_encLE, leVal_encLE]
  exact ⟨rfl, fun h => Nat.mod_eq_of_lt h⟩

/-- … and the other way round: writing the value read from `b` at `|b|` bytes reproduces `b` (mutual inverses) -/
theorem C14_le_inverse (b : Bytes) :
    (List.range b.length).map (fun i => UInt8.ofNat (leVal b / 2 ^ (8 * i))) = b ∧ leVal b < 2 ^ (8 * b.length) := by
  rw [range_map_eq_encLE, encLE_leVal]
  exact ⟨rfl, leVal_lt b⟩

/-- size-prefixed containers: whatever `Write<SizeType>(container)` accepted, `Read<SizeType>(container)` returns — for every
    prefix width, signedness and element size, at any position of any stream, whatever follows; the reader ends exactly
    behind the container -/
theorem C14_prefixed_roundtrip (width : Nat) (signed : Bool) (esz maxSize allocCap count : Nat) (payload out pre rest : Bytes)
    (hw : writePrefixed width signed payload count = .ok out) (hlen : payload.length = count * esz)
    (hmax : count ≤ maxSize) (hcap : count * esz < allocCap) (hwd : 0 < width) :
    readPrefixed RSpec.rd width signed esz maxSize allocCap { data := pre ++ out ++ rest, pos := pre.length } =
      .ok (payload, { data := pre ++ out ++ rest, pos := pre.length + out.length }) := by
  unfold writePrefixed at hw
  split at hw
  · cases hw
  · rename_i hfit
    have hout : out = encLE width count ++ payload := by
      rw [range_map_eq_encLE] at hw; exact (Except.ok.inj hw).symm
    have hpow : (2:Nat) ^ (8 * width - 1) * 2 = 2 ^ (8 * width) := by
      rw [← Nat.pow_succ]; congr 1; omega
    have hpos : 0 < (2:Nat) ^ (8 * width - 1) := Nat.two_pow_pos _
    have hlt : count < 2 ^ (8 * width) := by
      unfold prefixMax at hfit; split at hfit <;> omega
    have hval : leVal (encLE width count) = count := by rw [leVal_encLE, Nat.mod_eq_of_lt hlt]
    have hL := encLE_length width count
    unfold readPrefixed
    rw [RSpec.rd_eq, if_pos (by simp [hout, hL] <;> omega)]
    have e1 : RSpec.window { data := pre ++ out ++ rest, pos := pre.length } width = encLE width count := by
      rw [RSpec.window, hout, List.append_assoc, List.drop_left, List.append_assoc, List.take_left' hL]
    simp only [e1, hval]
    have c1 : ¬ (signed = true ∧ count ≥ 2 ^ (8 * width - 1)) := by
      intro ⟨hs, hge⟩
      unfold prefixMax at hfit; rw [if_pos hs] at hfit; omega
    rw [if_neg c1, if_neg (by omega), if_neg (by omega)]
    rw [RSpec.rd_eq, if_pos (by simp [hout, hL, hlen] <;> omega)]
    have e2 : RSpec.window { data := pre ++ out ++ rest, pos := pre.length + width } (count * esz) = payload := by
      rw [RSpec.window, hout, List.append_assoc, ← List.drop_drop, List.drop_left, List.append_assoc, List.drop_left' hL,
        List.take_left' hlen]
    rw [e2]
    have e3 : pre.length + width + count * esz = pre.length + out.length := by simp [hout, hL, hlen] <;> omega
    simp only [e3]

/-- the same through the `MemoryReader` model with its u64 guards (what `DynamicMemoryWriter::GetReader()` hands back): written
    by `Write<SizeType>`, read by `Read<SizeType>` -/
theorem C14_prefixed_roundtrip_memory (width : Nat) (signed : Bool) (esz maxSize allocCap count : Nat) (payload out pre rest : Bytes)
    (hw : writePrefixed width signed payload count = .ok out) (hlen : payload.length = count * esz)
    (hmax : count ≤ maxSize) (hcap : count * esz < allocCap) (hwd : 0 < width) (hw64 : width < W64) (hc64 : allocCap ≤ W64)
    (hfit : (pre ++ out ++ rest).length < W64) :
    readPrefixed MemR.rd width signed esz maxSize allocCap ({ data := pre ++ out ++ rest, pos := pre.length } : MemR) =
      .ok (payload, { data := pre ++ out ++ rest, pos := pre.length + out.length }) := by
  have hinv : RSpec.Inv ({ data := pre ++ out ++ rest, pos := pre.length } : RSpec) :=
    ⟨by simp only [List.length_append]; omega, hfit⟩
  rw [(readPrefixed_sim Eq (fun _ => rfl) MemR.rd id RSpec.Inv MemR.rd_sim width signed esz maxSize allocCap hw64 hc64 _ hinv).eq]
  exact C14_prefixed_roundtrip width signed esz maxSize allocCap count payload out pre rest hw hlen hmax hcap hwd

example : writePrefixed 2 true [7, 0, 8, 0, 9, 0] 3 = .ok [3, 0, 7, 0, 8, 0, 9, 0] ∧
    readPrefixed RSpec.rd 2 true 2 1000 1000 { data := [1] ++ [3, 0, 7, 0, 8, 0, 9, 0] ++ [5], pos := 1 } =
      .ok ([7, 0, 8, 0, 9, 0], { data := [1] ++ [3, 0, 7, 0, 8, 0, 9, 0] ++ [5], pos := 9 }) := ⟨rfl, rfl⟩

/-! ## copying a reader into a writer transfers exactly the remaining bytes, for every chunk size -/

theorem C14_copy (B : Nat) (hB : 0 < B) (r : RSpec) (w : Bytes) (hp : r.pos ≤ r.data.length) (fuel : Nat)
    (hf : r.data.length - r.pos < fuel) :
    copyLoop B fuel r w = ({ r with pos := r.data.length }, w ++ r.data.drop r.pos) :=
  copy_spec B hB fuel r w hp hf

/-- … for every reader backend: the copy loop run on a live object of any backend (memory reader, file reader, file slice, slice of
    a file slice — `copyLoopRd`, which the `copy` commands of the correspondence run execute) hands the writer exactly the bytes
    between the reader's cursor and the end of what it exposes, for every chunk size below 2^64, and leaves the reader at its end -/
theorem C14_copy_every_backend (B : Nat) (hB : 0 < B) (hB64 : B < W64) (r : Rd) (hr : r.Good) (w : Bytes) (fuel : Nat)
    (hf : r.abs.data.length - r.abs.pos < fuel) :
    (copyLoopRd B fuel r w).2 = w ++ r.abs.data.drop r.abs.pos ∧
    (copyLoopRd B fuel r w).1.abs = { r.abs with pos := r.abs.data.length } :=
  let h := copy_every_backend B hB hB64 r hr w fuel hf
  ⟨h.1, h.2.1⟩

example : (copyLoopRd 2 9 (Rd.fsl { w := { data := [1, 2, 3, 4, 5, 6, 7], pos := 3 }, start := 2, len := 4 }) [9]).2 = [9, 4, 5, 6] := by decide

/-- the library's chunk size is positive (regenerated from the header on every run) -/
theorem gen_copy_chunk_positive : 0 < Op2.Gen.Layout.DefaultCopyChunkSize := by decide

/-! ## the file writer creates, refuses, truncates, or preserves and appends exactly as its flags say -/

theorem C14_open_flags : ∀ (e n t a ex : Bool) (o : OpenOutcome),
    openDocumented { canOpenExisting := e, canOpenNew := n, truncate := t, append := a } ex = some o →
    openFile { canOpenExisting := e, canOpenNew := n, truncate := t, append := a } ex = o := by decide

/-- a refused open leaves the destination as it was -/
theorem C14_open_refused_leaves_file (f : OpenFlags) (prior : Option Bytes) (b : Bytes)
    (h : openFile f prior.isSome = .refused) : openWriteClose f prior b = (prior, false) := by
  unfold openWriteClose; rw [h]

/-- every history on a writer opened in append mode: whatever seeks it contains, the file ends up as the content it
    had at open followed by the bytes written, in order — existing content is never overwritten -/
theorem C14_append_history (s : FileW) (h : s.app = true) (ops : List WOp) :
    (FileW.run s ops).content = s.content ++ FileW.written ops ∧ (FileW.run s ops).app = true := by
  induction ops generalizing s with
  | nil => simp [FileW.run, FileW.written, h]
  | cons op ops ih =>
    cases op with
    | write b =>
      have := ih (FileW.step s (.write b)).2 (by simp [FileW.step, h])
      simp only [FileW.run, FileW.written]
      rw [this.1, this.2]; simp [FileW.step, h]
    | seek p => simpa [FileW.run, FileW.written, FileW.step] using ih { s with pos := p } h
    | fwd d => simpa [FileW.run, FileW.written, FileW.step] using ih { s with pos := s.pos + d } h
    | back d =>
      simp only [FileW.run, FileW.written, FileW.step]
      split
      · exact ih s h
      · exact ih { s with pos := s.pos - d } h
    | seekBegin => simpa [FileW.run, FileW.written, FileW.step] using ih { s with pos := 0 } h
    | seekEnd =>
      simp only [FileW.run, FileW.written, FileW.step]
      split
      · exact ih s h
      · exact ih { s with pos := s.content.length } h

/-- `Append`, any history, close: prior content (nothing, for a new file) is a prefix of what is on disk and the
    bytes written follow it in order -/
theorem C14_append_preserves (e n : Bool) (prior : Option Bytes) (ops : List WOp) (s : FileW)
    (ho : FileW.opened { canOpenExisting := e, canOpenNew := n, truncate := false, append := true } prior = some s) :
    (FileW.run s ops).content = prior.getD [] ++ FileW.written ops := by
  have hs : s.app = true ∧ s.content = prior.getD [] := by
    revert ho
    cases e <;> cases n <;> cases prior <;> simp [openFile, ofstreamKeeps, FileW.opened] <;> (intro h; subst h; simp)
  rw [(C14_append_history s hs.1 ops).1, hs.2]

/-- a session exists exactly when the open is not refused -/
theorem C14_session_iff_not_refused (f : OpenFlags) (prior : Option Bytes) :
    (FileW.opened f prior).isSome = (openFile f prior.isSome != .refused) := by
  unfold FileW.opened; cases openFile f prior.isSome <;> rfl

example : (FileW.run { content := [1, 2, 3], pos := 3, app := true } [.write [9], .seek 0, .write [8, 7]]).content
    = [1, 2, 3, 9, 8, 7] := by decide
/-- the same history without append mode overwrites: the theorem's hypothesis is what protects the content -/
example : (FileW.run { content := [1, 2, 3], pos := 3, app := false } [.write [9], .seek 0, .write [8, 7]]).content
    = [8, 7, 3, 9] := by decide

end Op2.Props.C14
