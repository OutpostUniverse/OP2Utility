import Op2Proofs.Gen.Tactics
import Op2Proofs.Map.Tile
import Op2Model.Gen.Formulas
import Op2Model.Gen.Layout
/-!
# C16 — map coordinates address distinct tiles; tile accessors are faithful

Width is `32 * m` (for the format `m = 2^(k-5)`, `k ≥ 5`); every statement holds for all `m`, all heights.
-/
namespace Op2.Props.C16
open Op2 Op2.Tile

theorem C16_index_in_range (m h x y : Nat) (hx : x < 32 * m) (hy : y < h) :
    tileIndexN h x y < 32 * m * h := by
  unfold tileIndexN
  have hq : x / 32 < m := by omega
  have h1 : (x / 32) * h + y < (x / 32 + 1) * h := by rw [Nat.add_mul]; omega
  have h2 : (x / 32 + 1) * h ≤ m * h := Nat.mul_le_mul_right h hq
  have h3 : 32 * m * h = 32 * (m * h) := Nat.mul_assoc _ _ _
  have : x % 32 < 32 := Nat.mod_lt _ (by omega)
  omega

/-- distinct coordinates address distinct tiles -/
theorem C16_index_injective (h x y x' y' : Nat) (hy : y < h) (hy' : y' < h)
    (e : tileIndexN h x y = tileIndexN h x' y') : x = x' ∧ y = y' := by
  have hx := tileIndexN_inv (x := x) hy
  rw [e] at hx
  exact ⟨hx.1.symm.trans (tileIndexN_inv hy').1, hx.2.symm.trans (tileIndexN_inv hy').2⟩

/-- every tile is addressed by some in-range coordinate (explicit inverse) -/
theorem C16_index_surjective (m h i : Nat) (hi : i < 32 * m * h) :
    ∃ x y, x < 32 * m ∧ y < h ∧ tileIndexN h x y = i := by
  have hpos : 0 < h := by
    rcases Nat.eq_zero_or_pos h with rfl | hp
    · simp at hi
    · exact hp
  refine ⟨(i / 32 / h) * 32 + i % 32, (i / 32) % h, ?_, Nat.mod_lt _ hpos, ?_⟩
  · have h3 : 32 * m * h = 32 * (m * h) := Nat.mul_assoc _ _ _
    have : i / 32 < m * h := by omega
    have : i / 32 / h < m := (Nat.div_lt_iff_lt_mul hpos).mpr this
    have : i % 32 < 32 := Nat.mod_lt _ (by omega)
    omega
  · unfold tileIndexN
    have r : i % 32 < 32 := Nat.mod_lt _ (by omega)
    have a1 : (i / 32 / h * 32 + i % 32) / 32 = i / 32 / h := by omega
    have a2 : (i / 32 / h * 32 + i % 32) % 32 = i % 32 := by omega
    rw [a1, a2]
    have := Nat.div_add_mod (i / 32) h
    have c : i / 32 / h * h = h * (i / 32 / h) := Nat.mul_comm _ _
    omega

/-- the coordinates cover the tile array exactly once: `(x, y) ↦ index` is a bijection onto `[0, w·h)` -/
theorem C16_bijective (m h : Nat) :
    (∀ x y, x < 32 * m → y < h → tileIndexN h x y < 32 * m * h) ∧
    (∀ x y x' y', y < h → y' < h → tileIndexN h x y = tileIndexN h x' y' → x = x' ∧ y = y') ∧
    (∀ i, i < 32 * m * h → ∃ x y, x < 32 * m ∧ y < h ∧ tileIndexN h x y = i) :=
  ⟨fun x y hx hy => C16_index_in_range m h x y hx hy,
   fun x y x' y' hy hy' e => C16_index_injective h x y x' y' hy hy' e,
   fun i hi => C16_index_surjective m h i hi⟩

/-- block order: blocks of 32 columns follow one another, each stored row by row -/
theorem C16_block_order (h x y : Nat) :
    tileIndexN h x y = 32 * ((x / 32) * h + y) + x % 32 := by unfold tileIndexN; omega

/-- the machine formula (64-bit `size_t`, shifts and masks) is the ℕ formula whenever the array fits 64 bits -/
theorem C16_machine_index (m h x y : Nat) (hx : x < 32 * m) (hy : y < h) (hfit : 32 * m * h < W64) :
    tileIndex h x y = tileIndexN h x y := by
  have hr := C16_index_in_range m h x y hx hy
  unfold tileIndex tileIndexN u64 at *
  have s : x >>> 5 = x / 32 := by rw [Nat.shiftRight_eq_div_pow]
  have a : x &&& 31 = x % 32 := Nat.and_two_pow_sub_one_eq_mod x 5
  rw [s, a]
  have r : x % 32 < 32 := Nat.mod_lt _ (by omega)
  have b1 : x / 32 * h ≤ (x / 32 * h + y) * 32 + x % 32 := by omega
  rw [Nat.mod_eq_of_lt (a := x / 32 * h) (by omega)]
  rw [Nat.mod_eq_of_lt (a := x / 32 * h + y) (by omega)]
  rw [Nat.mod_eq_of_lt (a := (x / 32 * h + y) * 32) (by omega)]
  exact Nat.mod_eq_of_lt (by omega)

/-- non-vacuity: a 64×3 map -/
example : tileIndexN 3 37 2 = 165 ∧ 37 < 32 * 2 ∧ 2 < 3 := by decide

/-! ## accessors are faithful; setters change only the addressed field -/

theorem C16_cellType_get_set (w v : Nat) (hv : v < 32) : cellTypeOf (withCellType w v) = v := by
  unfold cellTypeOf; rw [(withCellType_spec w v).1, Nat.mod_eq_of_lt hv]

theorem C16_cellType_set_frame (w v : Nat) :
    mappingIndexOf (withCellType w v) = mappingIndexOf w ∧ unitIndexOf (withCellType w v) = unitIndexOf w ∧
    lavaOf (withCellType w v) = lavaOf w ∧ lavaPossibleOf (withCellType w v) = lavaPossibleOf w ∧
    expansionOf (withCellType w v) = expansionOf w ∧ microbeOf (withCellType w v) = microbeOf w ∧
    wallOf (withCellType w v) = wallOf w := by
  -- every other field starts at a multiple of 32
  have hi := fun B (h : 32 ∣ B) M => field_eq_of_div_eq (withCellType_spec w v).2 h M
  unfold mappingIndexOf unitIndexOf lavaOf lavaPossibleOf expansionOf microbeOf wallOf
  exact ⟨hi _ (by decide) _, hi _ (by decide) _, by rw [hi _ (by decide)], by rw [hi _ (by decide)],
    by rw [hi _ (by decide)], by rw [hi _ (by decide)], by rw [hi _ (by decide)]⟩

theorem C16_cellType_stays_32bit (w v : Nat) (hw : w < W32) : withCellType w v < W32 := withCellType_lt w v hw

theorem C16_lava_get_set (w : Nat) (b : Bool) : lavaPossibleOf (withLavaPossible w b) = b := by
  unfold lavaPossibleOf; rw [(withLavaPossible_spec w b).2.1]; cases b <;> rfl

theorem C16_lava_set_frame (w : Nat) (b : Bool) :
    cellTypeOf (withLavaPossible w b) = cellTypeOf w ∧ mappingIndexOf (withLavaPossible w b) = mappingIndexOf w ∧
    unitIndexOf (withLavaPossible w b) = unitIndexOf w ∧ lavaOf (withLavaPossible w b) = lavaOf w ∧
    expansionOf (withLavaPossible w b) = expansionOf w ∧ microbeOf (withLavaPossible w b) = microbeOf w ∧
    wallOf (withLavaPossible w b) = wallOf w := by
  -- bit 28 is overwritten: four fields end at or below it, three start at or above bit 29
  obtain ⟨lo, -, hi⟩ := withLavaPossible_spec w b
  have lo := fun B' M' (h : B' * M' ∣ 268435456) => field_eq_of_mod_eq lo h
  have hi := fun B (h : 536870912 ∣ B) M => field_eq_of_div_eq hi h M
  unfold cellTypeOf mappingIndexOf unitIndexOf lavaOf expansionOf microbeOf wallOf
  exact ⟨by simpa using lo 1 32 (by decide), lo _ _ (by decide), lo _ _ (by decide), by rw [lo _ _ (by decide)],
    by rw [hi _ (by decide)], by rw [hi _ (by decide)], by rw [hi _ (by decide)]⟩

/-- out-of-range cell types (as the unsigned value the setter sees) are refused; nothing changes -/
theorem C16_cellType_range (w v : Nat) : (v > 31 → setCellType v w = .error .refused) ∧
    (v ≤ 31 → setCellType v w = .ok (withCellType w v)) := by
  unfold setCellType
  constructor <;> intro h
  · rw [if_pos h]
  · rw [if_neg (by omega)]

/-- a setter touches only the addressed tile -/
theorem C16_setter_touches_one_tile (tiles : List Nat) (i j : Nat) (f : Nat → Nat) (hij : i ≠ j) :
    (modifyAt tiles i f)[j]? = tiles[j]? := by
  unfold modifyAt
  rw [List.getElem?_modify]
  simp [hij]

theorem C16_setter_hits_addressed_tile (tiles : List Nat) (i : Nat) (f : Nat → Nat) :
    (modifyAt tiles i f)[i]? = (tiles[i]?).map f := by
  unfold modifyAt
  rw [List.getElem?_modify]
  simp

/-! ## bridging lemmas: the formula translated from `Map::GetTileIndex`, and the measured `Tile` layout -/

open Op2.Gen.Formulas in
theorem castU_nat (n : Nat) (h : n < 2 ^ 64) : castU 64 (n : Int) = (n : Int) := by
  unfold castU; omega

open Op2.Gen.Formulas Op2.GenTactics in
/-- `Map::GetTileIndex`, as translated from the current source, is the model's ℕ formula
    for every coordinate whose index fits `size_t` -/
theorem gen_GetTileIndex_eq (h x y : Nat) (hh : h < W32)
    (hfit : ((x / 32) * h + y) * 32 + x % 32 < W64) : gen_GetTileIndex_translated = true →
    gen_GetTileIndex (h : Int) (x : Int) (y : Int) = (tileIndexN h x y : Nat) := by
  gen_bridge =>
  -- spelling-independent: x = 32q + r; collapse the nested `% 2^64` to the outermost one; the polynomial identity is `grind`'s
  unfold W32 W64 at *
  obtain ⟨q, r, hr, rfl⟩ : ∃ q r, r < 32 ∧ x = 32 * q + r := ⟨x / 32, x % 32, Nat.mod_lt _ (by omega), by omega⟩
  have hq : (32 * q + r) / 32 = q := by omega
  have hm : (32 * q + r) % 32 = r := by omega
  have e1 : ((32 * q + r : Nat) : Int) / 32 = (q : Int) := by omega
  have e2 : ((32 * q + r : Nat) : Int) % 32 = (r : Int) := by omega
  have e3 : (32 * q + r) &&& 31 = r := by rw [Nat.and_two_pow_sub_one_eq_mod _ 5]; omega
  unfold tileIndexN
  rw [hq, hm] at hfit ⊢
  unfold gen_GetTileIndex castU
  simp only [Int.reducePow, Int.reduceMod, Int.reduceToNat, Int.toNat_natCast, e1, e2, e3, Int.ofNat_eq_natCast]
  simp only [emod_mul_l, emod_mul_r, Int.emod_add_emod, emod_add_r]
  have hT : (((q * h + y) * 32 + r : Nat) : Int) % 18446744073709551616 = ((q * h + y) * 32 + r : Nat) :=
    Int.emod_eq_of_lt (Int.natCast_nonneg _) (by omega)
  refine Eq.trans ?_ hT
  congr 1 <;> (push_cast; grind)

open Op2.Gen.Layout in
/-- the bit-fields of `Tile` sit where the model's accessors read them, and the cell-type field is unsigned -/
theorem gen_tile_layout :
    size_Tile = 4 ∧ mask_Tile_cellType = 31 ∧ mask_Tile_tileMappingIndex = 2047 * 32 ∧
    mask_Tile_unitIndex = 2047 * 65536 ∧ mask_Tile_bLava = 134217728 ∧ mask_Tile_bLavaPossible = 268435456 ∧
    mask_Tile_bExpansion = 536870912 ∧ mask_Tile_bMicrobe = 1073741824 ∧ mask_Tile_bWallOrBuilding = 2147483648 ∧
    CellType_Tube5 = 31 ∧ tile_cellType_allOnes_isNonNegative = true ∧
    size_TileMapping = 8 ∧ off_TileMapping_tilesetIndex = 0 ∧ off_TileMapping_tileGraphicIndex = 2 := by decide

end Op2.Props.C16
