import Op2Proofs.Props.C03
import Op2Model.Gen.Constants
/-!
# C20, part clm — CLM creation refuses what does not fit its on-disk fields

* a member whose data offset + length is beyond 32 bits ⇒ error (both directions at the level of `PrepareIndex`);
* a name longer than 8 characters ⇒ error;
* what is written never carries a truncated or wrapped value: in every archive `create` returns, the 32-bit offset and
  length fields *are* the true running sums (`C03_layout`), and the whole file is at most 2^32 − 1 bytes long.
-/
namespace Op2.Props.C20_Clm
open Op2 Op2.Clm Op2.Wave

/-- `PrepareIndex` refuses exactly when the end of some member (equivalently: of the last one) does not fit 32 bits -/
theorem C20_clm_prepareIndex_exact (start : Nat) (items : List (Bytes × Nat)) :
    prepareIndex start items = none ↔ items ≠ [] ∧ start + (items.map (·.2)).sum > offsetLimit :=
  prepareIndex_eq_none items start

/-- **offset + length beyond 32 bits ⇒ error.**  Whatever the files are: if all of them pass intake and the index plus the
    announced audio lengths end beyond 2^32 − 1, creation fails with an error (no archive, no hang). -/
theorem C20_clm_offset_overflow_refused (files : List (Bytes × Content)) (infos : List Info)
    (hlen : ∀ f ∈ files, f.2.len < 2 ^ 63)
    (hint : intakeAll ((sorted files).map (·.2)) = .ok infos) (hne : files ≠ [])
    (hbig : headerSize + files.length * entrySize + (infos.map (·.dataLen)).sum > offsetLimit) :
    create files = .err := by
  apply create_err_of files hlen
  intro a infos' hc
  obtain rfl : infos = infos' := Res.ok.inj (hint.symm.trans hc.intake)
  have := hc.fits
  rw [hc.lens] at this
  unfold headerSize entrySize at hbig
  omega

/-- converse (non-vacuity of the limit): at or below the limit `PrepareIndex` succeeds — nothing that fits is refused -/
theorem C20_clm_fits_accepted (start : Nat) (items : List (Bytes × Nat))
    (h : start + (items.map (·.2)).sum ≤ offsetLimit) : ∃ idx, prepareIndex start items = some idx :=
  ⟨_, prepareIndex_of_fits h⟩

/-- the boundary itself: one member ending exactly at 2^32 − 1 is accepted, one byte more is refused -/
example : (prepareIndex 76 [([97], 4294967295 - 76)]).isSome = true ∧ prepareIndex 76 [([97], 4294967296 - 76)] = none := by
  constructor
  · obtain ⟨idx, h⟩ := C20_clm_fits_accepted 76 [([97], 4294967295 - 76)] (by decide)
    rw [h]; rfl
  · exact (prepareIndex_eq_none _ _).mpr ⟨by simp, by decide⟩

/-- **no truncated or wrapped value is ever written**: every archive `create` returns is at most 2^32 − 1 bytes long, and
    its stored offsets are the true running sums of the stored lengths, starting right after the index -/
theorem C20_clm_no_wrapped_fields (files : List (Bytes × Content)) (a : Archive) (h : create files = .ok a) :
    a.toBytes.length ≤ offsetLimit ∧
    Spec.offs a.toBytes = Spec.offsetsFrom (60 + 16 * Spec.count a.toBytes) (Spec.lens a.toBytes) ∧
    60 + 16 * Spec.count a.toBytes + (Spec.lens a.toBytes).sum = a.toBytes.length := by
  obtain ⟨infos, hc⟩ := (create_eq_ok files a).mp h
  have wf := hc.wf
  refine ⟨?_, wf.2.2.2.2.1, wf.2.2.2.2.2⟩
  rw [hc.toBytes_length]
  exact hc.fits

/-- **a name longer than 8 characters ⇒ error**, wherever it stands in the set and whatever the other files are -/
theorem C20_clm_long_name_refused (files : List (Bytes × Content)) (hlen : ∀ f ∈ files, f.2.len < 2 ^ 63)
    (h : ∃ f ∈ files, (nameOf f.1).length > nameMax) : create files = .err :=
  (C03.C03_refusals files hlen).2.2.1 h

/-- converse: names of exactly 8 characters are packed (and read back in full) -/
example : C03.bytesOf? (create [([97, 98, 99, 100, 101, 102, 103, 104, 46, 119], ⟨C03.exWav.enc, 0⟩)]) =
    some (Spec.encode (C03.exFmt ++ [0, 0]) [([97, 98, 99, 100, 101, 102, 103, 104], [66, 66, 66, 66])]) := by decide
example : C03.bytesOf? (create [([97, 98, 99, 100, 101, 102, 103, 104, 105, 46, 119], ⟨C03.exWav.enc, 0⟩)]) = none := by decide

/-- a RIFF/WAVE header announcing `L` bytes of audio, the audio itself `L` sparse zeros -/
def sparseWav (L : Nat) : Content :=
  ⟨tagRIFF ++ encU32 (36 + L) ++ tagWAVE ++ tagFmt ++ encU32 16 ++ C03.exFmt ++ tagData ++ encU32 L, L⟩
/-- a sparse 4 GiB track is a number in the model: a one-track set whose data would end at 2^32 is refused
    (evaluated, not proved by cases: the decision depends on lengths only) -/
example : C03.bytesOf? (create [([97, 46, 119], sparseWav (4294967296 - 76))]) = none := by decide

theorem C20_gen_clm_offset_limit : Gen.Constants.clm_offsetLimit_scraped = true → Gen.Constants.clm_offsetLimit = Clm.offsetLimit := by decide
theorem C20_gen_clm_name_max : Gen.Constants.clm_nameMax_scraped = true → Gen.Constants.clm_nameMax = Clm.nameMax := by decide

end Op2.Props.C20_Clm
