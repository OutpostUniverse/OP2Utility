import Op2Proofs.Gen.Tactics
import Op2Proofs.Tileset.Write
import Op2Proofs.Props.C11_Bmp
import Op2Model.Gen.Layout
import Op2Model.Gen.Formulas
/-!
# C09 — tilesets load to the same picture from custom and standard formats

Model: `Op2Model/Tileset.lean` (`peekIsCustom`, `read`, `readCustom`, `writeCustom`, `validateTs`, frozen `Spec.encode`).
A *picture* is what a bitmap object shows (`picture`: 256 colours, 32-byte rows listed top-down); `ValidPicture f` says the
object is an 8-bit, 32-pixel-wide bitmap whose height is a multiple of 32 (either sign), with at most 256 palette entries and
32·|height| pixel bytes.
-/
namespace Op2.Props.C09
open Op2 Op2.Bmp Op2.Tileset Op2.Props.C11

/-- saving a valid picture writes exactly the independent description of the format applied to the picture the object
    shows: the bytes are a function of the picture alone (orientation in memory, palette padding do not matter) -/
theorem C09_bytes (f : Bmp) (hv : ValidPicture f) : writeCustom f = .ok (Spec.encode (picture f)) :=
  writeCustom_ok hv

/-- two objects showing the same picture are saved to the same bytes -/
theorem C09_bytes_function_of_picture (f g : Bmp) (hf : ValidPicture f) (hg : ValidPicture g) (h : picture f = picture g) :
    writeCustom f = writeCustom g := by
  rw [C09_bytes f hf, C09_bytes g hg, h]

/-- custom-format save, then `ReadTileset`: the same picture, top-down, identical colours -/
theorem C09_custom_rt (f : Bmp) (hv : ValidPicture f) (hc : 32 * f.ih.height.natAbs ≤ allocCap) :
    ∃ w g, writeCustom f = .ok w ∧ Tileset.read w = .ok g ∧
      g = bmpOfPicture (picture f) ∧ picture g = picture f ∧ g.ih.height ≤ 0 ∧
      g.palette = f.palette ++ List.replicate (256 - f.palette.length) Color.black := by
  have hwf := picture_wf hv
  have hl := picture_rows_length f
  refine ⟨_, _, C09_bytes f hv, spec_read (picture f) hwf (by rw [hl]; exact hc), rfl, ?_, ?_, rfl⟩
  · exact picture_bmpOfPicture _ hwf
  · show -((picture f).rows.length : Int) ≤ 0
    omega

/-- the same picture stored as a standard bitmap by `WriteIndexed` loads through `ReadTileset` to the same picture
    (orientation as stored).  Stated for objects with the reader's invariants (`Loaded`: everything `ReadIndexed`,
    `ReadTileset` or the factories return). -/
theorem C09_bmp_same (f : Bmp) (L : Loaded f) (hv : ValidPicture f) :
    ∃ w g, write f = .ok w ∧ Tileset.read w = .ok g ∧ picture g = picture f ∧ g.ih.height = f.ih.height ∧
      g.pixels = f.pixels := by
  have hpix : (normalize f).pixels = f.pixels := by
    -- 8 bits, 32 pixels: rows have no padding
    have hb : pixByteWidth f.ih.bitCount f.ih.width = 32 := by rw [hv.1, hv.2.1]; decide
    have hp : pitch f.ih.bitCount f.ih.width = 32 := by rw [hv.1, hv.2.1]; decide
    refine normalize_pixels_of_clean L fun r hr => ?_
    rw [hb, hp, List.drop_of_length_le (Nat.le_of_eq (storedRows_row_length _ _ _ L.rows_le r hr |>.trans hp))]
    rfl
  refine ⟨_, _, L.write_ok, (read_written_eq_ok L).mpr ⟨rfl, hv.validateTs⟩, ?_, rfl, hpix⟩
  unfold picture
  rw [hpix]
  have : (normalize f).palette ++ List.replicate (256 - (normalize f).palette.length) Color.black =
      f.palette ++ List.replicate (256 - f.palette.length) Color.black := by
    show fullPalette f.ih.bitCount f.palette ++ List.replicate (256 - (fullPalette f.ih.bitCount f.palette).length) Color.black = _
    rw [L.fullPalette_length, hv.1]
    unfold fullPalette
    simp
  rw [this]
  rfl

/-- `PeekIsCustomTileset` answers by the next four bytes alone (`true` exactly for "PBMP"; an error when fewer than four
    remain) and leaves the reader — position included — exactly as it was -/
theorem C09_peek (s : Stream.MemR) (hi : s.Inv) :
    peekIsCustom s =
      (if s.pos + 4 ≤ s.data.length then .ok (decide ((s.data.drop s.pos).take 4 = tagPBMP)) else .error .bounds, s) :=
  peekIsCustom_eval s hi

/-- the loader dispatches on that answer only -/
theorem C09_dispatch (b : Bytes) (hb : b.length < W64) :
    (4 ≤ b.length → b.take 4 = tagPBMP → Tileset.read b = readCustom b) ∧
    (4 ≤ b.length → b.take 4 ≠ tagPBMP → ∀ g, Tileset.read b = .ok g → Bmp.read b = .ok g) := by
  constructor
  · intro h4 ht; rw [read_eq b hb, if_pos h4, if_pos ht]
  · intro _ ht g hg
    obtain ⟨_, ⟨e, _⟩ | ⟨_, hr, _⟩⟩ := (Tileset.read_eq_ok hb).mp hg
    · exact (ht e).elim
    · exact hr

def Constraints (f : Bmp) : Prop := f.ih.bitCount = 8 ∧ f.ih.width = 32 ∧ f.ih.height % 32 = 0
instance (f : Bmp) : Decidable (Constraints f) := by unfold Constraints; infer_instance

/-- a picture violating the constraints is refused on save, and the loader never returns one, whatever the bytes and
    whichever format they are in; in particular such a picture stored as a standard bitmap is refused on load -/
theorem C09_refuse :
    (∀ f, ¬ Constraints f → ∃ e, writeCustom f = .err e) ∧
    (∀ b g, b.length < W64 → Tileset.read b = .ok g → Constraints g) ∧
    (∀ f, Loaded f → ¬ Constraints f → ∃ w, write f = .ok w ∧ ∃ e, Tileset.read w = .err e) := by
  refine ⟨fun f hn => ?_, fun b g hb h => (validateTs_eq_ok g).mp (read_validateTs hb h), fun f L hn => ?_⟩
  · have : validateTs f = .err .format :=
      (validateTs_cases f).resolve_left fun e => hn ((validateTs_eq_ok f).mp e)
    exact ⟨.format, by unfold writeCustom; rw [this]⟩
  · refine ⟨_, L.write_ok, ?_⟩
    have hlen : (encode (normalize f)).length < W64 := by
      rw [encode_normalize_length L]
      have := L.cap; have := L.pow_bits_le; unfold allocCap W64 at *; omega
    cases hr : Tileset.read (encode (normalize f)) with
    | err e => exact ⟨e, rfl⟩
    | fault x => have := C11_no_fault_load_tileset _ hlen; rw [hr] at this; cases this
    | ok g => exact (hn ((validateTs_eq_ok f).mp ((read_written_eq_ok L).mp hr).2)).elim

/-! ## bridging lemmas: measured layout and constants of the tileset records -/

open Op2.Gen.Layout in
theorem C09_gen_layout :
    size_SectionHeader = 8 ∧ off_SectionHeader_tag = 0 ∧ off_SectionHeader_length = 4 ∧
    size_TilesetHeader = sizeTilesetHeader ∧ off_TilesetHeader_sectionHead = 0 ∧ off_TilesetHeader_tagCount = 8 ∧
    off_TilesetHeader_pixelWidth = 12 ∧ off_TilesetHeader_pixelHeight = 16 ∧ off_TilesetHeader_bitDepth = 20 ∧
    off_TilesetHeader_flags = 24 ∧
    size_PpalHeader = sizePpalHeader ∧ off_PpalHeader_ppal = 0 ∧ off_PpalHeader_head = 8 ∧ off_PpalHeader_tagCount = 16 ∧
    ts_DefaultSectionSize = headSectionSize ∧ ts_DefaultTagCount = headTagCount ∧ ts_DefaultPixelWidth = pixelWidth ∧
    ts_DefaultPixelHeightMultiple = heightMultiple ∧ ts_DefaultBitDepth = bitDepth ∧ ts_DefaultFlags = flags ∧
    ts_DefaultPpalSectionSize = ppalSectionSize ∧ ts_DefaultHeadSectionSize = ppalHeadSectionSize ∧
    ts_PpalDefaultTagCount = ppalTagCount ∧ ts_DefaultPaletteHeaderSize = paletteSectionSize ∧
    ts_TagFileSignature = tagPBMP.map UInt8.toNat ∧ ts_TagHead = tagHead.map UInt8.toNat ∧
    ts_TagPpal = tagPPAL.map UInt8.toNat ∧ ts_TagPpalHead = tagHead.map UInt8.toNat ∧ ts_TagData = tagData.map UInt8.toNat ∧
    size_Color = 4 ∧ off_Color_red = 0 ∧ off_Color_green = 1 ∧ off_Color_blue = 2 ∧ off_Color_alpha = 3 := by decide

open Op2.GenTactics in
/-- `CalculatePixelHeaderLength` and `CalculatePbmpSectionSize` as translated from the current source (clang AST; `sizeof`s and
    constants are the ones measured in `Gen/Layout`) are the model's section-length formulas, for every 32-bit height -/
theorem C09_gen_section_sizes (h : Nat) (hh : h < W32) :
    (Gen.Formulas.gen_CalculatePixelHeaderLength_translated && Gen.Formulas.gen_CalculatePbmpSectionSize_translated) = true →
    Gen.Formulas.gen_CalculatePixelHeaderLength (h : Int) = ((pixelHeaderLength h : Nat) : Int) ∧
    Gen.Formulas.gen_CalculatePbmpSectionSize (h : Int) = ((pbmpSectionSize h : Nat) : Int) := by
  gen_bridge =>
  unfold Gen.Formulas.gen_CalculatePbmpSectionSize Gen.Formulas.gen_CalculatePixelHeaderLength Gen.Formulas.castU
    pbmpSectionSize pixelHeaderLength
  simp only [Gen.Layout.ts_DefaultPixelWidth, Gen.Layout.size_Tag, Gen.Layout.size_TilesetHeader, Gen.Layout.size_PpalHeader,
    Gen.Layout.ts_DefaultPaletteHeaderSize, pixelWidth, sizeTag, sizeTilesetHeader, sizePpalHeader, paletteSectionSize, W32, gen_norm] at *
  omega

/-- the model's constants are the frozen description's literals -/
theorem C09_spec_constants :
    headSectionSize = 0x14 ∧ headTagCount = 2 ∧ pixelWidth = 32 ∧ bitDepth = 8 ∧ flags = 8 ∧ ppalSectionSize = 1048 ∧
    ppalHeadSectionSize = 4 ∧ ppalTagCount = 1 ∧ paletteSectionSize = 1024 ∧
    Spec.ascii4 'P' 'B' 'M' 'P' = tagPBMP ∧ Spec.ascii4 'h' 'e' 'a' 'd' = tagHead ∧ Spec.ascii4 'P' 'P' 'A' 'L' = tagPPAL ∧
    Spec.ascii4 'd' 'a' 't' 'a' = tagData := by decide

/-! ## non-vacuity -/

/-- a 32×0 picture with a one-entry palette, as `ReadIndexed` returns it from a 58-byte file -/
def tiny : Bmp :=
  { bh := BmpHeader.create 58 58,
    ih := { headerSize := 40, width := 32, height := 0, planes := 1, bitCount := 8, compression := 0, imageSize := 0,
            xRes := 0, yRes := 0, used := 1, important := 0 },
    palette := [⟨10, 20, 30, 0⟩], pixels := [] }

example : ValidPicture tiny := by decide
example : ¬ Constraints { tiny with ih := { tiny.ih with width := 31 } } := by decide

end Op2.Props.C09
