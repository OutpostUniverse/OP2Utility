import Op2Proofs.Props.C12_Gen
/-!
# C13 — bridging lemmas: creation of slices.  The constructor `SliceReader(wrapped, start, length)` (with
`Initialize()`), `Slice(start, length) const` and `Slice(length)`, as translated from the current C++ on this run,
are the model's `Slice.create`, `Slice.slice2`, `Slice.slice1` (shown on the recording stream `probeW`, see
`C12_Gen.lean`): same refusals — the wrap tests included — same window, same seek of the wrapped stream.
-/
set_option linter.unusedSimpArgs false
namespace Op2.Props.C13
open Op2 Op2.Stream Op2.GenBridge
open Op2.Gen.Streams
open Op2.Props.C12 (probeSlice ProbeGood)

/-- what the generated constructor can see of a created slice: `startingOffset`, `sliceLength`, the position the
    wrapped stream was sent to -/
def sliceView (t : Slice Probe) : Int × Int × Int := ((t.start : Int), (t.len : Int), t.w.arg)

/-- the constructor: overflow test on `start + length`, end test against the wrapped stream's length, seek to `start` -/
theorem C13_gen_slice_create : (SliceReader_Create_translated && SliceReader_Initialize_translated) = true →
    ∀ (wl wp start len : Nat), wl < W64 → start < W64 → len < W64 →
      SliceReader_Create wl start len = okOr sliceView (Slice.create probeW { length := wl, position := wp } start len) := by
  gen_bridge =>
    intro wl wp start len h1 h2 h3
    simp only [Slice.create, probeW]
    (repeat' split) <;> simp only [sliceView, okOr_ok, okOr_error, reduceCtorEq] at * <;>
    simp only [SliceReader_Create, SliceReader_Initialize, bind_ite, bind_none', bind_some', u64, W64] at * <;> gen_close

/-- `Initialize()` on its own (copy constructor path): end test and seek.  Stated where `Initialize` is reachable — both
    constructors have established that `start + len` does not wrap (the slicing constructor by its overflow test, the copy
    constructor because it copies the members of an existing slice) — so a spelling of the end test that is equal only without
    wrap-around (`start > N || len > N - start`) is accepted, as it must be. -/
theorem C13_gen_slice_initialize : SliceReader_Initialize_translated = true →
    ∀ (wl start len : Nat), wl < W64 → start + len < W64 →
      SliceReader_Initialize start len wl =
        if start + len > wl then none else some (start : Int) := by
  gen_bridge =>
    intro wl start len h1 h2
    split <;> simp only [SliceReader_Initialize, u64, W64] at * <;> gen_close

/-- `Slice(start, length) const` followed by the construction it returns = the model's `slice2` -/
theorem C13_gen_subslice : (SliceReader_Slice2_translated && SliceReader_Create_translated &&
      SliceReader_Initialize_translated) = true →
    ∀ (wl wp start len a n : Nat), ProbeGood wl start len wp → a < W64 → n < W64 →
      (SliceReader_Slice2 start len wp a n).bind (fun c => SliceReader_Create wl c.1 c.2) =
        okOr sliceView (Slice.slice2 probeW (probeSlice wl start len wp) a n) := by
  gen_bridge =>
    intro wl wp start len a n hg h5 h6
    obtain ⟨g1, g2, g3, g4⟩ := hg
    simp only [Slice.slice2, Slice.create, probeW, probeSlice]
    (repeat' split) <;> simp only [sliceView, okOr_ok, okOr_error, reduceCtorEq] at * <;>
    simp only [SliceReader_Slice2, SliceReader_Create, SliceReader_Initialize, bind_ite, bind_none', bind_some', u64, W64] at * <;> gen_close

/-- `Slice(length)` is `Slice(Position(), length)` followed by `SeekForward(length)` on this slice — the definition of
    the model's `slice1` in terms of `slice2` and `fwd`, whose generated counterparts are tied above and in `C12_Gen`;
    it fails when either step fails and reports both the construction and the distance advanced -/
theorem C13_gen_slice_at_position : (SliceReader_Slice1_translated && SliceReader_Slice2_translated &&
      SliceReader_SeekForward_translated && SliceReader_Position_translated) = true →
    ∀ (start len wp n : Int),
      SliceReader_Slice1 start len wp n =
        (SliceReader_Position start len wp).bind fun p =>
        (SliceReader_Slice2 start len wp p n).bind fun (c0, c1) =>
        (SliceReader_SeekForward start len wp n).bind fun f => some (c0, c1, f) := by
  gen_bridge =>
    intro start len wp n
    simp only [SliceReader_Slice1, SliceReader_Position, bind_some']

end Op2.Props.C13
