import Op2Proofs.Gen.Bridge
import Op2Model.Gen.Bits
/-!
The definitions of `Op2.Gen.Bits` spell C++ bit operations on `Int` (`Int.ofNat (a.toNat &&& b.toNat)`, `a * 2 ^ n.toNat`,
`a / 2 ^ n.toNat`, `castS 32 a`, `a % 2^w`).  Each becomes arithmetic by its meaning (`x &&& (2^n - 1) = x % 2^n`, a shift is a
multiplication / division by a power of two, OR of two numbers with disjoint bit ranges is their sum), so that `& 0xFFF` and
`% 4096`, `>> 3` and `/ 8` are the same to `omega`.
-/
namespace Op2.GenBits
open Op2.Gen.Formulas

theorem castS_32 (x : Int) : castS 32 x = (x + 2147483648) % 4294967296 - 2147483648 := by
  simp only [castS, Nat.reduceSub, Int.reducePow]

theorem castS32_small (x : Int) (h0 : 0 ≤ x) (h1 : x < 2147483648) : castS 32 x = x := by
  rw [castS_32]; omega

theorem and_1 (n : Nat) : n &&& 1 = n % 2 := Nat.and_two_pow_sub_one_eq_mod n 1
theorem and_3 (n : Nat) : n &&& 3 = n % 4 := Nat.and_two_pow_sub_one_eq_mod n 2
theorem and_7 (n : Nat) : n &&& 7 = n % 8 := Nat.and_two_pow_sub_one_eq_mod n 3
theorem and_15 (n : Nat) : n &&& 15 = n % 16 := Nat.and_two_pow_sub_one_eq_mod n 4
theorem and_31 (n : Nat) : n &&& 31 = n % 32 := Nat.and_two_pow_sub_one_eq_mod n 5
theorem and_63 (n : Nat) : n &&& 63 = n % 64 := Nat.and_two_pow_sub_one_eq_mod n 6
theorem and_127 (n : Nat) : n &&& 127 = n % 128 := Nat.and_two_pow_sub_one_eq_mod n 7
theorem and_255 (n : Nat) : n &&& 255 = n % 256 := Nat.and_two_pow_sub_one_eq_mod n 8
theorem and_511 (n : Nat) : n &&& 511 = n % 512 := Nat.and_two_pow_sub_one_eq_mod n 9
theorem and_1023 (n : Nat) : n &&& 1023 = n % 1024 := Nat.and_two_pow_sub_one_eq_mod n 10
theorem and_2047 (n : Nat) : n &&& 2047 = n % 2048 := Nat.and_two_pow_sub_one_eq_mod n 11
theorem and_4095 (n : Nat) : n &&& 4095 = n % 4096 := Nat.and_two_pow_sub_one_eq_mod n 12
theorem and_8191 (n : Nat) : n &&& 8191 = n % 8192 := Nat.and_two_pow_sub_one_eq_mod n 13
theorem and_65535 (n : Nat) : n &&& 65535 = n % 65536 := Nat.and_two_pow_sub_one_eq_mod n 16

theorem and_pow (x n : Nat) : x &&& 2 ^ n = x / 2 ^ n % 2 * 2 ^ n := by
  apply Nat.eq_of_testBit_eq
  intro i
  rw [Nat.testBit_and, Nat.testBit_two_pow, ← Nat.toNat_testBit, Nat.testBit_mul_two_pow]
  by_cases h : n = i
  · subst h
    cases hx : x.testBit n <;> simp
  · cases hx : x.testBit n <;> simp [h]
    intro hle
    have : i - n ≠ 0 := by omega
    rcases Nat.exists_eq_succ_of_ne_zero this with ⟨m, hm⟩
    rw [hm]; simp [Nat.testBit_succ]
theorem and_2 (n : Nat) : n &&& 2 = n / 2 % 2 * 2 := and_pow n 1
theorem and_4 (n : Nat) : n &&& 4 = n / 4 % 2 * 4 := and_pow n 2
theorem and_8 (n : Nat) : n &&& 8 = n / 8 % 2 * 8 := and_pow n 3
theorem and_16 (n : Nat) : n &&& 16 = n / 16 % 2 * 16 := and_pow n 4
theorem and_32 (n : Nat) : n &&& 32 = n / 32 % 2 * 32 := and_pow n 5
theorem and_64 (n : Nat) : n &&& 64 = n / 64 % 2 * 64 := and_pow n 6
theorem and_128 (n : Nat) : n &&& 128 = n / 128 % 2 * 128 := and_pow n 7

theorem or_disj (k : Nat) {a b : Nat} (ha : a % 2 ^ k = 0) (hb : b < 2 ^ k) : a ||| b = a + b := by
  rw [← Nat.mul_div_cancel' (Nat.dvd_of_mod_eq_zero ha), Nat.two_pow_add_eq_or_of_lt hb]
theorem or_disj' (k : Nat) {a b : Nat} (ha : a % 2 ^ k = 0) (hb : b < 2 ^ k) : b ||| a = a + b := by
  rw [Nat.or_comm]; exact or_disj k ha hb

attribute [gen_norm] and_2 and_4 and_8 and_16 and_32 and_64 and_128
  and_1 and_3 and_7 and_15 and_31 and_63 and_127 and_255 and_511 and_1023 and_2047 and_4095 and_8191 and_65535

/-- conversions that cannot change the value (`castS 32 x`, `x % 2^w` with `0 ≤ x < 2^w` provable by `omega` from the context) are
    dropped first; only the remaining `castS 32` are unfolded to arithmetic -/
macro "bits_norm" : tactic =>
  `(tactic| (
    (try simp only [gen_norm] at *)
    (try simp (disch := omega) only [castS32_small, Int.emod_eq_of_lt, gen_norm] at *)
    (try simp (disch := omega) only [castS_32, Int.emod_eq_of_lt, Int.add_sub_cancel, gen_norm] at *)))

end Op2.GenBits
