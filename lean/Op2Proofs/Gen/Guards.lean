import Op2Model.Gen.Guards
import Op2Proofs.Gen.Tactics
import Op2Proofs.Word
/-!
A lemma about `Op2.Gen.Guards` (refusal conditions) mentions `<F>_refuses` only, never a single `guard<k>`: any order or grouping
of the guards with the same refusal set passes.
-/
namespace Op2.GenGuards
open Op2.GenTactics

/-- what a guard can see of a model result -/
def refused {ε α : Type} : Except ε α → Bool
  | .ok _ => false
  | .error _ => true
@[simp] theorem refused_ok {ε α : Type} (a : α) : refused (.ok a : Except ε α) = false := rfl
@[simp] theorem refused_error {ε α : Type} (e : ε) : refused (.error e : Except ε α) = true := rfl

theorem and_mask32 (x : Nat) (h : x < 4294967296) : x &&& 4294967292 = x / 4 * 4 := Op2.and_mask32 x h

/-- `guard_iff` reads `= true` / `= false` of a Bool expression as the proposition it decides; `guard_beq` reads a Bool equation
    as an `↔` between the two propositions -/
macro "guard_iff" : tactic =>
  `(tactic| (try simp only [gt_iff_lt, ge_iff_le, iff_true, iff_false, true_iff, false_iff, Bool.and_eq_false_iff, Bool.or_eq_false_iff, beq_eq_false_iff_ne, ne_eq, Bool.or_eq_true, Bool.and_eq_true, Bool.not_eq_true', decide_eq_true_eq,
      decide_eq_false_iff_not, Bool.false_eq_true, or_false, false_or, beq_iff_eq, bne_iff_ne, Bool.not_eq_eq_eq_not, Bool.not_true, Bool.not_false]))
macro "guard_beq" : tactic => `(tactic| (rw [Bool.eq_iff_iff]; guard_iff))

/-- The facts only mention the model-side variable `v` (never the generated spelling); without them `omega`, whose variable
    elimination is inexact (no dark / grey shadows), can fail to see that a `% 2^64` of an in-range value is the value. -/
macro "nowrap " v:term : tactic =>
  `(tactic| ((try have : (($v : Nat) : Int) / 18446744073709551616 = 0 := by omega);
             (try have : (($v : Nat) : Int) / 4294967296 = 0 := by omega)))

end Op2.GenGuards
