import Lean.Meta.Tactic.Simp.BuiltinSimprocs
import Op2Proofs.Gen.Simp
/-!
Every bridging lemma about a generated definition (`Op2Model/Gen/*`) has the form `<fn>_translated = true → ∀ values in the ranges
of the C++ types, generated result = view of the model's result`.  When the function left the translator's fragment the flag is
`false`, the generated body is a dummy, the lemma is vacuous and the function is tied by the differential run alone (recorded
under `generated_facts.fallback` in the evidence) — not an alarm.

The lemmas are semantic (equality of results for all inputs) and proved by normalising by meaning, then `omega`: a spelling of the
source that is equivalent in the arithmetic of the C++ types passes, any other leaves an `omega` goal open.

The `*_Gen.lean` files and `Bmp/GenBridge.lean` start with `set_option linter.unusedSimpArgs false`: which lemmas of a simp list
fire depends on the spelling of the source.
-/
namespace Op2.GenTactics

/-! `gen_fallback` closes `flag = true → …` when the flag evaluates to `false`.  `gen_bridge => tac` tries that first and
otherwise introduces the flag hypothesis and runs `tac`; `gen_bridge h => tac` names the hypothesis, for a proof that hands it
to another bridging lemma (`C04_gen_repeatOffset`).  `gen_guard_h h => tac` is the same macro under the name the guard
fragment introduced; no proof calls it. -/

macro "gen_fallback" : tactic => `(tactic| (intro h; exact absurd h (by decide)))

macro "gen_guard_h " h:ident " => " t:tacticSeq : tactic => `(tactic| first | gen_fallback | (intro $h:ident; ($t)))

end Op2.GenTactics

namespace Op2.GenBridge
open Op2.GenTactics
/-- `first`: the same proof text has to compile whatever the flag -/
macro "gen_bridge" " => " t:tacticSeq : tactic => `(tactic| first | gen_fallback | (intro _; ($t)))
macro "gen_bridge" h:ident " => " t:tacticSeq : tactic => `(tactic| first | gen_fallback | (intro $h:ident; ($t)))
end Op2.GenBridge

namespace Op2.GenTactics

attribute [gen_norm_proc] Int.reduceToNat Int.reducePow Int.reduceMod Int.reduceMul Int.reduceAdd Int.reduceSub Int.reduceDiv
  Int.reduceNeg Nat.reducePow Nat.reduceMul Nat.reduceAdd Nat.reduceSub Nat.reduceMod Nat.reduceDiv
  Int.reduceEq Int.reduceNe Int.reduceLE Int.reduceLT Int.reduceGT Int.reduceGE Nat.reduceEqDiff Nat.reduceLeDiff Nat.reduceLT
attribute [gen_norm] Int.toNat_natCast Int.ofNat_eq_natCast Int.toNat_zero Int.cast_ofNat_Int Int.emod_emod
  Nat.shiftRight_eq_div_pow Nat.shiftLeft_eq
  or_self or_false false_or or_true true_or and_false false_and and_true true_and not_true_eq_false not_false_eq_true
  if_true if_false ne_eq Option.bind_some Option.bind_none

/-! The product forms are not in core.  The sums and differences are (`Int.emod_add_emod`, `Int.add_emod_emod`,
`Int.emod_sub_emod`, `Int.sub_emod_emod`); the last three stand here under the names of the family. -/
theorem emod_mul_l (a b M : Int) : (a % M * b) % M = (a * b) % M := by
  rw [Int.mul_emod, Int.emod_emod_of_dvd _ (Int.dvd_refl M), ← Int.mul_emod]
theorem emod_mul_r (a b M : Int) : (a * (b % M)) % M = (a * b) % M := by
  rw [Int.mul_emod, Int.emod_emod_of_dvd _ (Int.dvd_refl M), ← Int.mul_emod]
theorem emod_add_r (a b M : Int) : (a + b % M) % M = (a + b) % M := Int.add_emod_emod a b M
theorem emod_sub_l (a b M : Int) : (a % M - b) % M = (a - b) % M := Int.emod_sub_emod a M b
theorem emod_sub_r (a b M : Int) : (a - b % M) % M = (a - b) % M := Int.sub_emod_emod a b M

end Op2.GenTactics
