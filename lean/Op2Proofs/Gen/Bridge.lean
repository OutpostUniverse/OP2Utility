import Op2Model.Basic
import Op2Proofs.Gen.Tactics
/-!
What the bridging lemmas share: `okOr` (a model result as a generated definition sees it), the lemmas of the simp set
`gen_outcome` (a cascade of `if`s as a proposition over its conditions), and the closing tactic `gen_close`.
-/
namespace Op2.GenBridge
open Op2

/-- what a generated definition can see of a model result: `none` for an exception, else a tuple of integers -/
def okOr {α β : Type} (f : α → β) : Except Err α → Option β
  | .ok a => some (f a)
  | .error _ => none

@[simp] theorem okOr_ok {α β : Type} (f : α → β) (a : α) : okOr f (.ok a) = some (f a) := rfl
@[simp] theorem okOr_error {α β : Type} (f : α → β) (e : Err) : okOr f (.error e : Except Err α) = none := rfl

theorem bind_ite {α β : Type} (c : Prop) [Decidable c] (a b : Option α) (f : α → Option β) :
    (if c then a else b).bind f = if c then a.bind f else b.bind f := by
  split <;> rfl
theorem bind_none' {α β : Type} (f : α → Option β) : (none : Option α).bind f = none := rfl
theorem bind_some' {α β : Type} (a : α) (f : α → Option β) : (some a).bind f = f a := rfl

/-! The `Decidable` instance is left open in these lemmas: rewriting inside a condition leaves the `if` with the instance of the old
proposition, which an instance argument found by class resolution would not match.  For the same reason a proof first turns the
cascade of `if`s into a proposition with them (`gen_outcome`) and only then unfolds arithmetic inside the conditions. -/

theorem ite_eq_some_iff {α : Type} {c : Prop} {_ : Decidable c} (x y : Option α) (a : α) :
    (if c then x else y) = some a ↔ (c ∧ x = some a) ∨ (¬ c ∧ y = some a) := by
  by_cases h : c <;> simp [h]

theorem eq_accept_iff (o : Option Unit) (P : Prop) {_ : Decidable P} :
    o = (if P then some () else none) ↔ (o = some () ↔ P) := by
  cases o <;> by_cases h : P <;> simp [h]

/-- a C++ `bool` kept in an integer local -/
theorem boolInt_ne_zero {c : Prop} {_ : Decidable c} : (if c then (1 : Int) else 0) ≠ 0 ↔ c := by
  by_cases h : c <;> simp [h]
theorem boolInt_eq_zero {c : Prop} {_ : Decidable c} : (if c then (1 : Int) else 0) = 0 ↔ ¬ c := by
  by_cases h : c <;> simp [h]

/-- `omega` reads an `if` between integers, not one under a cast -/
theorem natCast_ite (c : Prop) {_ : Decidable c} (a b : Nat) :
    ((if c then a else b : Nat) : Int) = if c then (a : Int) else (b : Int) := by
  split <;> rfl

attribute [gen_outcome] ite_eq_some_iff boolInt_ne_zero boolInt_eq_zero bind_ite bind_none' bind_some'
  and_false false_and false_or or_false and_true true_and Option.some.injEq Prod.mk.injEq
attribute [gen_outcome_proc] reduceCtorEq

theorem pred_ite {α : Type} (P : α → Prop) {c : Prop} {_ : Decidable c} (a b : α) :
    P (if c then a else b) ↔ (c → P a) ∧ (¬ c → P b) := by
  by_cases h : c <;> simp [h]

/-- splits every `if` / `match` of the goal, reduces `okOr` and constructor equations in every branch and closes each by
    linear arithmetic, so the model side must be unfolded before it is called.  `omega` before `rfl`: `rfl` on terms with
    64-bit literals can run into the recursion limit -/
macro "gen_close" : tactic =>
  `(tactic| ((repeat' split) <;>
      (try simp only [Option.some.injEq, Prod.mk.injEq, reduceCtorEq, okOr_ok, okOr_error, bind_none', bind_some'] at *) <;>
      first | omega | trivial | (and_intros <;> first | omega | trivial) | rfl))

end Op2.GenBridge
