import Lean.Meta.Tactic.Simp.RegisterCommand
/-- what a generated definition spells that is arithmetic by meaning: literal arithmetic (simprocs), masks as remainders, shifts as
    multiplication / division by a power of two, conversions between `Nat` and `Int` of natural numbers.  Unconditional rewriting
    only; a conversion that is the identity on a *range* (`castS32_small`, `Int.emod_eq_of_lt`) is called where it is needed, with
    `omega` as discharger. -/
register_simp_attr gen_norm

/-- a generated definition is a cascade of `if`s with `none` / `some …` at its leaves; these lemmas turn "the cascade returns `a`"
    into a proposition over the conditions of its paths (`GenBridge.ite_eq_some_iff` and what removes the dead paths), which one
    `omega` then decides against the model's condition -/
register_simp_attr gen_outcome
