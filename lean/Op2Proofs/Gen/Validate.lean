import Op2Model.Bmp
import Op2Model.Gen.Validate
import Op2Proofs.Gen.Bridge
/-!
A lemma about `Op2.Gen.Validate` (the validation functions of the bitmap / tileset code) unfolds *every* generated definition
(`gen_validate_unfold`, generated with the file), so the proof does not depend on how the source is cut into functions.
-/
namespace Op2.GenValidate
open Op2 Op2.GenBridge

/-- what a generated validation function can say about a model outcome: returns / throws -/
def returns (ok : Bool) : Option Unit := if ok then some () else none

@[simp] theorem returns_true : returns true = some () := rfl
@[simp] theorem returns_false : returns false = none := rfl

theorem returns_decide (c : Prop) [Decidable c] : returns (decide c) = if c then some () else none := by
  by_cases h : c <;> simp [returns, h]
theorem isOk_ite {α : Type} (c : Prop) [Decidable c] (a : α) (e : Err) :
    (if c then Op2.Bmp.Out.ok a else Op2.Bmp.Out.err e : Op2.Bmp.Out α).isOk = decide c := by
  by_cases h : c <;> simp [Op2.Bmp.Out.isOk, h]

theorem castS32_u16 (n : Nat) (h : n < 65536) : ((n : Int) + 2147483648) % 4294967296 - 2147483648 = (n : Int) := by omega

/-- `1 << n` as one atom for `omega` on both sides -/
theorem two_pow_natCast (b : Nat) : (2 : Int) ^ b = ((2 ^ b : Nat) : Int) := (Int.natCast_pow 2 b).symm
/-- … and at most 256 wherever the palette limit `1 << bitCount` is compared: all `omega` needs of the generalised `2 ^ bits` -/
theorem two_pow_le_256 (bits : Nat) : bits ≤ 8 → 2 ^ bits ≤ 2 ^ 8 := Nat.pow_le_pow_right (by decide)

/-- four bytes against a tag: the model compares the lists, the C++ the values -/
theorem tag_eq (a b c d x y z t : UInt8) :
    [a, b, c, d] = [x, y, z, t] ↔ a.toNat = x.toNat ∧ b.toNat = y.toNat ∧ c.toNat = z.toNat ∧ d.toNat = t.toNat := by
  simp only [List.cons.injEq, and_true, UInt8.toNat_inj]

theorem bind_ite' {α β : Type} (c : Prop) [Decidable c] (a b : Option α) (f : α → Option β) :
    (if c then a else b).bind f = if c then a.bind f else b.bind f := bind_ite c a b f

/-! a harmless rewrite of `% 32` is `& 31` -/
theorem and_1 (n : Nat) : n &&& 1 = n % 2 := Nat.and_two_pow_sub_one_eq_mod n 1
theorem and_3 (n : Nat) : n &&& 3 = n % 4 := Nat.and_two_pow_sub_one_eq_mod n 2
theorem and_7 (n : Nat) : n &&& 7 = n % 8 := Nat.and_two_pow_sub_one_eq_mod n 3
theorem and_15 (n : Nat) : n &&& 15 = n % 16 := Nat.and_two_pow_sub_one_eq_mod n 4
theorem and_31 (n : Nat) : n &&& 31 = n % 32 := Nat.and_two_pow_sub_one_eq_mod n 5
theorem and_63 (n : Nat) : n &&& 63 = n % 64 := Nat.and_two_pow_sub_one_eq_mod n 6
theorem and_255 (n : Nat) : n &&& 255 = n % 256 := Nat.and_two_pow_sub_one_eq_mod n 8

attribute [gen_norm] and_1 and_3 and_7 and_15 and_31 and_63 and_255 returns_true returns_false isOk_ite returns_decide

/-- `simp only [gen_norm]` is wrapped in `try` where it is called (nothing to normalise is not an error): make sure it does
    elaborate and work -/
example (x : Int) (h : (x % 4294967296).toNat &&& Int.toNat 31 = 0 % 4294967296) : (x % 4294967296).toNat % 32 = 0 := by
  simp only [gen_norm] at *
  exact h

-- The second argument of `genv_bits` is named for the reader only: the expansion finds `bits ≤ 8` through `omega`.  No proof
-- calls the macro.
/-- with `bits ≤ 8` in the context, one goal per value `0 … 8`: for a proof that needs the shift by the bit count evaluated (the
    lemmas of `Props/C08_Gen` keep `2 ^ bits` symbolic instead) -/
macro "genv_bits" bits:ident _h8:ident : tactic =>
  `(tactic| (generalize hbi : (($bits : Nat) : Int) = bi at *
             have hcases : ($bits = 0 ∧ bi = 0) ∨ ($bits = 1 ∧ bi = 1) ∨ ($bits = 2 ∧ bi = 2) ∨ ($bits = 3 ∧ bi = 3) ∨ ($bits = 4 ∧ bi = 4) ∨
                 ($bits = 5 ∧ bi = 5) ∨ ($bits = 6 ∧ bi = 6) ∨ ($bits = 7 ∧ bi = 7) ∨ ($bits = 8 ∧ bi = 8) := by omega
             clear hbi
             rcases hcases with ⟨e1, e2⟩ | ⟨e1, e2⟩ | ⟨e1, e2⟩ | ⟨e1, e2⟩ | ⟨e1, e2⟩ | ⟨e1, e2⟩ | ⟨e1, e2⟩ | ⟨e1, e2⟩ | ⟨e1, e2⟩ <;>
               subst e1 <;> subst e2))

end Op2.GenValidate
