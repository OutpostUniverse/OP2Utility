import Op2Proofs.ParserLemmas
/-!
# Parsers that are the exact inverse of an encoder

`Exact p enc V` joins `Yields` and `Reads` in one statement per parser; `many` lifts both at once, and `Local` follows.
A proof `h : Exact p enc V` applied to three arguments is the equivalence itself, so `simp only [bind_eq_ok, h _ _ _, …]`
rewrites every success of `p` inside a sequence; `h.of_bind` / `h.bind_eq` do the same one step at a time, which is
cheaper for long sequences.
-/
namespace Op2.Parser
open Op2

variable {α β : Type}

def Exact (p : Parser α) (enc : α → Bytes) (V : α → Prop) : Prop :=
  ∀ xs a rest, p xs = .ok (a, rest) ↔ V a ∧ xs = enc a ++ rest

namespace Exact
variable {p : Parser α} {enc : α → Bytes} {V : α → Prop}

theorem intro (hy : Yields p fun a s => V a ∧ s = enc a) (hr : ∀ a, V a → Reads p (enc a) a) : Exact p enc V := by
  intro xs a rest
  constructor
  · intro h
    obtain ⟨s, rfl, ha, rfl⟩ := hy xs a rest h
    exact ⟨ha, rfl⟩
  · rintro ⟨ha, rfl⟩
    exact hr a ha rest

theorem yields (h : Exact p enc V) : Yields p fun a s => V a ∧ s = enc a :=
  fun xs a rest hp => ⟨enc a, ((h xs a rest).mp hp).2, ((h xs a rest).mp hp).1, rfl⟩

theorem reads (h : Exact p enc V) {a : α} (ha : V a) : Reads p (enc a) a := fun _ => (h _ _ _).mpr ⟨ha, rfl⟩

theorem «local» (h : Exact p enc V) : Local p :=
  Local.of_yields_reads h.yields fun _ _ q => q.2 ▸ h.reads q.1

theorem bind_eq (h : Exact p enc V) {a : α} (ha : V a) (f : α → Parser β) (rest : Bytes) :
    Parser.bind p f (enc a ++ rest) = f a rest := (h.reads ha).bind_eq f rest

theorem of_bind (h : Exact p enc V) {f : α → Parser β} {xs : Bytes} {b : β} {r : Bytes}
    (hb : Parser.bind p f xs = .ok (b, r)) : ∃ a ys, V a ∧ xs = enc a ++ ys ∧ f a ys = .ok (b, r) := by
  obtain ⟨a, ys, hp, hf⟩ := bind_eq_ok.mp hb
  exact ⟨a, ys, ((h _ _ _).mp hp).1, ((h _ _ _).mp hp).2, hf⟩

end Exact

theorem exact_take (k : Nat) : Exact (take k) id (·.length = k) :=
  Exact.intro ((yields_take k).mono fun _ _ q => ⟨q.1 ▸ q.2, q.1.symm⟩) fun a ha => reads_take' a k ha

/-- `hdec` is asked with the (empty) rest `bs.drop k` attached: the shape in which `encU32_decU32_drop` folds a record
    back into `bs` field by field from the last -/
theorem exact_record {k : Nat} {dec : Bytes → α} {enc : α → Bytes} {V : α → Prop}
    (hdec : ∀ bs : Bytes, bs.length = k → V (dec bs) ∧ enc (dec bs) ++ bs.drop k = bs)
    (henc : ∀ a, V a → (enc a).length = k ∧ dec (enc a) = a) : Exact (map (take k) dec) enc V :=
  Exact.intro ((yields_map_take k dec).mono fun a s ⟨e, hl⟩ => by
      have h := hdec s hl
      rw [List.drop_of_length_le (Nat.le_of_eq hl), List.append_nil] at h
      exact e ▸ ⟨h.1, h.2.symm⟩)
    fun a ha => by
      have := reads_map dec (reads_take' (enc a) k (henc a ha).1)
      rwa [(henc a ha).2] at this

theorem exact_u8 : Exact u8 encU8 (· < 256) := Exact.intro yields_u8 reads_u8
theorem exact_u16 : Exact u16 encU16 (· < 65536) := Exact.intro yields_u16 reads_u16
theorem exact_u32 : Exact u32 encU32 (· < 4294967296) := Exact.intro yields_u32 reads_u32

theorem exact_many {p : Parser α} {enc : α → Bytes} {V : α → Prop} (h : Exact p enc V) (n : Nat) :
    Exact (many p n) (·.flatMap enc) (fun as => as.length = n ∧ ∀ a ∈ as, V a) :=
  Exact.intro ((yields_many_enc (h.yields.mono fun _ _ q => ⟨q.2, q.1⟩) n).mono fun _ _ ⟨hl, hs, hv⟩ => ⟨⟨hl, hv⟩, hs⟩)
    fun as ⟨hl, hv⟩ => hl ▸ reads_many_of (fun _ => h.reads) as hv

theorem bind_take {k : Nat} {s : Bytes} (h : s.length = k) (f : Bytes → Parser β) (rest : Bytes) :
    Parser.bind (take k) f (s ++ rest) = f s rest := (exact_take k).bind_eq h f rest

theorem take_of_bind {k : Nat} {f : Bytes → Parser β} {xs : Bytes} {b : β} {r : Bytes}
    (hb : Parser.bind (take k) f xs = .ok (b, r)) : ∃ a ys, a.length = k ∧ xs = a ++ ys ∧ f a ys = .ok (b, r) :=
  (exact_take k).of_bind hb

theorem guard_of_bind {c : Bool} {e : Err} {f : Unit → Parser β} {xs : Bytes} {b : β} {r : Bytes}
    (hb : Parser.bind (guard c e) f xs = .ok (b, r)) : c = true ∧ f () xs = .ok (b, r) := by
  obtain ⟨_, _, hg, hf⟩ := bind_eq_ok.mp hb
  obtain ⟨hc, rfl⟩ := guard_eq_ok.mp hg
  exact ⟨hc, hf⟩

end Op2.Parser
