import Op2Proofs.Stream.Nesting
/-!
The typed read helpers `ReadNullTerminatedString` and `Read<SizeType>(container)`.  `ntSpec` is the independent description of
what the `readNT` loop delivers (`readNT_eq`).  Both helpers only ever call the reader's checked `Read(k)`; `readNT_sim` and
`readPrefixed_sim` carry them from the abstract reader to any reader whose `Read(k)` simulates the abstract one (`SimRes`),
as that of every refining reader does (`Refines.rd_sim`).
-/
namespace Op2.Stream

/-- a reader's checked `Read(k)` as the typed helpers see it (an exception is an `Err`) -/
def RSpec.rd (s : RSpec) (k : Nat) : Except Err (Bytes × RSpec) :=
  match s.step (.read k) with
  | (.bytes b, s') => .ok (b, s')
  | _ => .error .bounds

/-- string and number of bytes consumed, or `none` when the data ends before a terminator or `m` characters -/
def ntSpec (rest : Bytes) (m : Nat) : Option (Bytes × Nat) :=
  let str := (rest.take m).takeWhile (· != 0)
  if str.length < (rest.take m).length then some (str, str.length + 1)
  else if m ≤ rest.length then some (str, m) else none

theorem RSpec.rd_eq (s : RSpec) (k : Nat) : s.rd k =
    if s.pos + k ≤ s.data.length then .ok (s.window k, { s with pos := s.pos + k }) else .error .bounds := by
  unfold RSpec.rd
  simp only [RSpec.step]
  by_cases c : s.pos + k ≤ s.data.length <;> simp only [c, ↓reduceIte]

/-- the `FileReader` model (in-bounds behaviour of `std::ifstream`, trusted base) reads like the abstract reader -/
theorem fileR_read_eq : FileR.read = RSpec.rd := by
  funext s k
  exact (RSpec.rd_eq s k).symm

theorem RSpec.rd_one (s : RSpec) : s.rd 1 =
    match s.data.drop s.pos with
    | [] => .error .bounds
    | c :: _ => .ok ([c], { s with pos := s.pos + 1 }) := by
  rw [RSpec.rd_eq, RSpec.window]
  cases h : s.data.drop s.pos with
  | nil => rw [if_neg (by have := congrArg List.length h; simp at this; omega)]
  | cons c t => rw [if_pos (by have := congrArg List.length h; simp at this; omega)]; rfl

theorem ntSpec_cons {c : UInt8} (hc : c ≠ 0) (t : Bytes) (m : Nat) :
    ntSpec (c :: t) (m + 1) = (ntSpec t m).map fun p => (c :: p.1, p.2 + 1) := by
  have hne : (c != 0) = true := by simpa using hc
  simp only [ntSpec, List.take_succ_cons, List.takeWhile_cons, hne, if_true, List.length_cons,
    Nat.add_lt_add_iff_right, Nat.add_le_add_iff_right]
  split
  · rfl
  · split <;> rfl

theorem ntSpec_found {str : Bytes} (tail : Bytes) (hz : ∀ c ∈ str, c ≠ 0) :
    ∀ {m : Nat}, str.length < m → ntSpec (str ++ 0 :: tail) m = some (str, str.length + 1) := by
  induction str with
  | nil =>
    intro m hm
    obtain ⟨k, rfl⟩ : ∃ k, m = k + 1 := ⟨m - 1, by simp at hm; omega⟩
    simp [ntSpec]
  | cons c str ih =>
    intro m hm
    obtain ⟨k, rfl⟩ : ∃ k, m = k + 1 := ⟨m - 1, by simp at hm; omega⟩
    rw [List.cons_append, ntSpec_cons (hz c (by simp)), ih (fun x hx => hz x (by simp [hx])) (by simpa using hm)]
    rfl

theorem ntSpec_maxcount : ∀ {rest : Bytes} {m : Nat}, m ≤ rest.length → (∀ c ∈ rest.take m, c ≠ 0) →
    ntSpec rest m = some (rest.take m, m)
  | _, 0, _, _ => by simp [ntSpec]
  | [], _ + 1, h, _ => by simp at h
  | c :: t, m + 1, h, hz => by
    rw [ntSpec_cons (hz c (by simp)), ntSpec_maxcount (Nat.le_of_succ_le_succ h) fun x hx => hz x (by simp [hx])]
    rfl

theorem ntSpec_runs_out : ∀ {rest : Bytes} {m : Nat}, rest.length < m → (∀ c ∈ rest, c ≠ 0) → ntSpec rest m = none
  | [], m + 1, _, _ => by simp [ntSpec]
  | c :: t, m + 1, h, hz => by
    rw [ntSpec_cons (hz c (by simp)), ntSpec_runs_out (Nat.lt_of_succ_lt_succ h) fun x hx => hz x (by simp [hx])]
    rfl

theorem readNT_eq (fuel : Nat) (s : RSpec) (acc : Bytes) :
    readNT RSpec.rd fuel s acc =
      match ntSpec (s.data.drop s.pos) fuel with
      | some (str, n) => .ok (acc.reverse ++ str, { s with pos := s.pos + n })
      | none => .error .bounds := by
  induction fuel generalizing s acc with
  | zero => simp [readNT, ntSpec]
  | succ fuel ih =>
    rw [readNT, RSpec.rd_one]
    cases hrest : s.data.drop s.pos with
    | nil => simp [ntSpec]
    | cons c t =>
      by_cases hc : c = 0
      · subst hc
        simp [ntSpec]
      · have ht : s.data.drop (s.pos + 1) = t := by rw [← List.drop_drop, hrest]; rfl
        simp only [if_neg hc, ih, ht, ntSpec_cons hc]
        cases ntSpec t fuel with
        | none => rfl
        | some p => simp [Nat.add_assoc, Nat.add_comm 1]

/-- `maxCount` beyond the remaining bytes + 1 changes nothing (the executable driver cuts the fuel there) -/
theorem ntSpec_fuel_cut (rest : Bytes) (m : Nat) : ntSpec rest m = ntSpec rest (min m (rest.length + 1)) := by
  by_cases h : m ≤ rest.length + 1
  · rw [Nat.min_eq_left h]
  · have hm : min m (rest.length + 1) = rest.length + 1 := by omega
    rw [hm]
    have t1 : rest.take m = rest := List.take_of_length_le (by omega)
    have t2 : rest.take (rest.length + 1) = rest := List.take_of_length_le (by omega)
    unfold ntSpec
    simp only [t1, t2]
    have : ¬ m ≤ rest.length := by omega
    have : ¬ rest.length + 1 ≤ rest.length := by omega
    simp [*]

/-- `r` is to `r'` what a backend's result is to the abstract reader's: the same bytes and a `G`-state that `ab` sends to the
    abstract one, or two errors related by `E` -/
def SimRes {σ : Type} (E : Err → Err → Prop) (ab : σ → RSpec) (G : σ → Prop)
    (r : Except Err (Bytes × σ)) (r' : Except Err (Bytes × RSpec)) : Prop :=
  match r, r' with
  | .ok (b, s'), .ok (b', a') => b = b' ∧ ab s' = a' ∧ G s'
  | .error e, .error e' => E e e'
  | .ok _, .error _ => False
  | .error _, .ok _ => False

variable {σ : Type} {E : Err → Err → Prop} {ab : σ → RSpec} {G : σ → Prop}

theorem SimRes.elim {r : Except Err (Bytes × σ)} {r' : Except Err (Bytes × RSpec)} (h : SimRes E ab G r r') :
    (∃ e e', r = .error e ∧ r' = .error e' ∧ E e e') ∨ (∃ b s', r = .ok (b, s') ∧ r' = .ok (b, ab s') ∧ G s') := by
  match r, r', h with
  | .error e, .error e', h => exact .inl ⟨e, e', rfl, rfl, h⟩
  | .ok (b, s'), .ok (b', a'), ⟨hb, ha, hg⟩ => exact .inr ⟨b, s', rfl, by rw [hb, ha], hg⟩

theorem SimRes.eq {G : RSpec → Prop} {r r' : Except Err (Bytes × RSpec)} (h : SimRes Eq id G r r') : r = r' := by
  rcases h.elim with ⟨e, e', rfl, rfl, he⟩ | ⟨b, s', rfl, rfl, _⟩
  · rw [he]
  · rfl

theorem readNT_sim {rd : σ → Nat → Except Err (Bytes × σ)} (hstep : ∀ s, G s → SimRes E ab G (rd s 1) (RSpec.rd (ab s) 1))
    (fuel : Nat) (s : σ) (acc : Bytes) (hs : G s) :
    SimRes E ab G (readNT rd fuel s acc) (readNT RSpec.rd fuel (ab s) acc) := by
  induction fuel generalizing s acc with
  | zero => exact ⟨rfl, rfl, hs⟩
  | succ fuel ih =>
    rcases (hstep s hs).elim with ⟨e, e', h1, h2, he⟩ | ⟨b, s', h1, h2, hg⟩ <;> simp only [readNT, h1, h2]
    · exact he
    · obtain ⟨c, rfl⟩ : ∃ c, b = [c] := by
        rw [RSpec.rd_one] at h2
        split at h2
        · cases h2
        · exact ⟨_, (Prod.mk.inj (Except.ok.inj h2)).1.symm⟩
      simp only
      split
      · exact ⟨rfl, rfl, hg⟩
      · exact ih s' (c :: acc) hg

theorem readNT_refined {rd : σ → Nat → Except Err (Bytes × σ)} (hstep : ∀ s, G s → SimRes E ab G (rd s 1) (RSpec.rd (ab s) 1))
    (m : Nat) (s : σ) (hs : G s) :
    match ntSpec ((ab s).data.drop (ab s).pos) m with
    | some (str, n) => ∃ s', readNT rd m s [] = .ok (str, s') ∧ G s' ∧ ab s' = { ab s with pos := (ab s).pos + n }
    | none => ∃ e, readNT rd m s [] = .error e ∧ E e .bounds := by
  have h := (readNT_sim hstep m s [] hs).elim
  rw [readNT_eq m (ab s) []] at h
  cases hn : ntSpec ((ab s).data.drop (ab s).pos) m with
  | none =>
    rw [hn] at h
    rcases h with ⟨e, e', h1, h2, he⟩ | ⟨_, _, _, h2, _⟩
    · cases h2; exact ⟨e, h1, he⟩
    · cases h2
  | some q =>
    rw [hn] at h
    rcases h with ⟨_, _, _, h2, _⟩ | ⟨b, s', h1, h2, hg⟩
    · cases h2
    · simp only [Except.ok.injEq, Prod.mk.injEq] at h2
      exact ⟨s', by rw [h1, ← h2.1]; rfl, hg, h2.2.symm⟩

theorem readPrefixed_sim {σ : Type} (E : Err → Err → Prop) (hE : ∀ e, E e e) (rd : σ → Nat → Except Err (Bytes × σ))
    (ab : σ → RSpec) (G : σ → Prop)
    (hstep : ∀ s k, G s → k < W64 → SimRes E ab G (rd s k) (RSpec.rd (ab s) k))
    (width : Nat) (signed : Bool) (esz maxSize allocCap : Nat) (hw : width < W64) (hcap : allocCap ≤ W64)
    (s : σ) (hs : G s) :
    SimRes E ab G (readPrefixed rd width signed esz maxSize allocCap s)
      (readPrefixed RSpec.rd width signed esz maxSize allocCap (ab s)) := by
  rcases (hstep s width hs hw).elim with ⟨e, e', h1, h2, he⟩ | ⟨b, s', h1, h2, hg⟩ <;> simp only [readPrefixed, h1, h2]
  · exact he
  · split
    · exact hE _
    · split
      · exact hE _
      · split
        · exact hE _
        · exact hstep s' _ hg (by omega)

/-- `hrd`: `rd` is the `.read k` step read as a result.  For `MemR.rd`, `Slice.rd`, `Rd.read` that is `rfl` with smart unfolding
    off (the two `match`es differ only in the names of their auxiliaries, which `rfl` otherwise does not see through). -/
theorem Refines.rd_sim {step : σ → ROp → Out × σ} (R : Refines step ab G) {rd : σ → Nat → Except Err (Bytes × σ)}
    (hrd : ∀ s k, rd s k = match step s (.read k) with | (.bytes b, s') => .ok (b, s') | _ => .error .bounds)
    (s : σ) (k : Nat) (hs : G s) (hk : k < W64) : SimRes Eq ab G (rd s k) (RSpec.rd (ab s) k) := by
  obtain ⟨s', e, g, a⟩ := R.step_pair s (.read k) hs hk
  rw [hrd, e]
  unfold RSpec.rd
  generalize RSpec.step (ab s) (.read k) = r' at a ⊢
  obtain ⟨o, a'⟩ := r'
  subst a
  cases o with
  | bytes b => exact ⟨rfl, rfl, g⟩
  | unit => exact rfl
  | err => exact rfl

def MemR.rd (s : MemR) (k : Nat) : Except Err (Bytes × MemR) :=
  match MemR.step s (.read k) with
  | (.bytes b, s') => .ok (b, s')
  | _ => .error .bounds

set_option smartUnfolding false in
theorem MemR.rd_sim (s : MemR) (k : Nat) (h : s.Inv) (hk : k < W64) : SimRes Eq id RSpec.Inv (MemR.rd s k) (RSpec.rd s k) :=
  MemR.refines.rd_sim (rd := MemR.rd) (fun _ _ => rfl) s k h hk

def Slice.rd {σ : Type} (W : Wrapped σ) (s : Slice σ) (k : Nat) : Except Err (Bytes × Slice σ) :=
  match Slice.step W s (.read k) with
  | (.bytes b, s') => .ok (b, s')
  | _ => .error .bounds

variable {σ : Type} {W : Wrapped σ} {ab : σ → RSpec} {G : σ → Prop}

set_option smartUnfolding false in
theorem Slice.rd_sim (ok : WrappedOK W ab G) (s : Slice σ) (k : Nat) (hs : sliceGood G ab s) (hk : k < W64) :
    SimRes Eq (sliceAbs ab) (sliceGood G ab) (Slice.rd W s k) (RSpec.rd (sliceAbs ab s) k) :=
  (Slice.refines ok).rd_sim (rd := Slice.rd W) (fun _ _ => rfl) s k hs hk

theorem readNT_slice (ok : WrappedOK W ab G) (fuel : Nat) (s : Slice σ) (acc : Bytes) (hs : sliceGood G ab s) :
    SimRes Eq (sliceAbs ab) (sliceGood G ab) (readNT (Slice.rd W) fuel s acc)
      (readNT RSpec.rd fuel (sliceAbs ab s) acc) :=
  readNT_sim (fun t ht => Slice.rd_sim ok t 1 ht (by decide)) fuel s acc hs

end Op2.Stream
