import Op2Proofs.Stream.Slice
/-!
# Creating slices, the file model under a slice, and file slices nested to any depth
-/
namespace Op2.Stream
open Op2

theorem fileWrappedOK : WrappedOK fileWrapped id RSpec.Inv where
  inv _ h := h
  len _ _ := rfl
  pos _ _ := rfl
  read s k h hin := ⟨_, if_pos hin, ⟨hin, h.2⟩, rfl⟩
  readPartial s k h hin := by
    have hin' : s.pos + k ≤ s.data.length := hin
    refine ⟨{ s with pos := s.pos + k }, ?_, ⟨hin, h.2⟩, rfl⟩
    show FileR.readPartial s k = _
    rw [FileR.readPartial, Nat.min_eq_left (Nat.le_sub_of_add_le' hin')]; rfl
  seek s p h hp := ⟨_, rfl, ⟨hp, h.2⟩, rfl⟩
  fwd s d h hin := by
    have hin' : s.pos + d ≤ s.data.length := hin
    refine ⟨{ s with pos := s.pos + d }, ?_, ⟨hin, h.2⟩, rfl⟩
    show FileR.fwd s d = _
    simp only [FileR.fwd, u64_of_lt (Nat.lt_of_le_of_lt hin' h.2), if_neg (Nat.not_lt.mpr (Nat.le_add_right ..))]
  back s d h hin := ⟨_, if_neg (Nat.not_lt.mpr hin), ⟨Nat.le_trans (Nat.sub_le ..) h.1, h.2⟩, rfl⟩

theorem keeps_file : Keeps fileWrapped (fun s : FileR => s.data) where
  read s k b s' h := by
    simp only [fileWrapped, FileR.read] at h
    split at h <;> cases h
    rfl
  readPartial _ _ := rfl
  seek s p s' h := by cases h; rfl
  fwd s d s' h := by
    simp only [fileWrapped, FileR.fwd] at h
    split at h <;> cases h
    rfl
  back s d s' h := by
    simp only [fileWrapped, FileR.back] at h
    split at h <;> cases h
    rfl

variable {σ : Type} {W : Wrapped σ} {ab : σ → RSpec} {G : σ → Prop}

theorem Slice.create_ok (ok : WrappedOK W ab G) (w : σ) (hw : G w) (start len : Nat)
    (hfit : start + len ≤ (ab w).data.length) :
    ∃ s, Slice.create W w start len = .ok s ∧ sliceGood G ab s ∧
      sliceAbs ab s = { data := ((ab w).data.drop start).take len, pos := 0 } := by
  obtain ⟨_, hi2⟩ := ok.inv w hw
  obtain ⟨w', e1, g', a'⟩ := ok.seek w start hw (by omega)
  refine ⟨{ w := w', start := start, len := len }, ?_, ⟨g', ?_, ?_, ?_⟩, ?_⟩
  · rw [Slice.create, if_neg (by unfold W64 at *; omega), u64_of_lt (by omega), ok.len w hw, if_neg (by omega)]
    simp only [e1]
  all_goals simp [sliceAbs, a']
  exact hfit

theorem Slice.create_err (ok : WrappedOK W ab G) (w : σ) (hw : G w) (start len : Nat)
    (hs : start < W64) (hout : ¬ start + len ≤ (ab w).data.length) :
    Slice.create W w start len = .error .bounds := by
  rw [Slice.create]
  by_cases c1 : len > W64 - 1 - start
  · rw [if_pos c1]
  · rw [if_neg c1, u64_of_lt (by omega), ok.len w hw, if_pos (by omega)]

theorem Slice.slice2_ok (ok : WrappedOK W ab G) (s : Slice σ) (hs : sliceGood G ab s) (start len : Nat)
    (hfit : start + len ≤ s.len) :
    ∃ t, Slice.slice2 W s start len = .ok t ∧ sliceGood G ab t ∧
      sliceAbs ab t = { data := ((sliceAbs ab s).data.drop start).take len, pos := 0 } := by
  obtain ⟨hg, g1, g2, g3⟩ := hs
  obtain ⟨_, hi2⟩ := ok.inv s.w hg
  obtain ⟨t, e, g, a⟩ := Slice.create_ok ok s.w hg (s.start + start) len (by omega)
  refine ⟨t, ?_, g, ?_⟩
  · rw [Slice.slice2, u64_of_lt (by omega), if_neg (by omega), u64_of_lt (by omega), e]
  · rw [a, sliceAbs, take_drop_window, Nat.min_eq_left (by omega)]

theorem Slice.slice2_err (W : Wrapped σ) (s : Slice σ) (start len : Nat) (h1 : start < W64)
    (hout : ¬ start + len ≤ s.len) : Slice.slice2 W s start len = .error .bounds := by
  rw [Slice.slice2]
  by_cases c1 : len > W64 - 1 - start
  · rw [if_pos (Or.inr c1)]
  · rw [u64_of_lt (by omega), if_pos (by omega)]

theorem Slice.slice1_ok (ok : WrappedOK W ab G) (s : Slice σ) (hs : sliceGood G ab s) (len : Nat)
    (hin : (sliceAbs ab s).pos + len ≤ s.len) :
    ∃ t s', Slice.slice1 W s len = .ok (t, s') ∧ sliceGood G ab t ∧ sliceGood G ab s' ∧
      sliceAbs ab t = { data := ((sliceAbs ab s).data.drop (sliceAbs ab s).pos).take len, pos := 0 } ∧
      sliceAbs ab s' = { sliceAbs ab s with pos := (sliceAbs ab s).pos + len } := by
  obtain ⟨t, e, g, a⟩ := Slice.slice2_ok ok s hs (sliceAbs ab s).pos len hin
  obtain ⟨s', e', g', a'⟩ := (sliceExact ok).fwd s len hs (by rw [sliceAbs_len s hs]; exact hin)
  exact ⟨t, s', by rw [Slice.slice1, Slice.position_eq ok s hs, e, show Slice.fwd W s len = _ from e'], g, g', a, a'⟩

theorem Slice.slice1_err (ok : WrappedOK W ab G) (s : Slice σ) (hs : sliceGood G ab s) (len : Nat)
    (hout : ¬ (sliceAbs ab s).pos + len ≤ s.len) : Slice.slice1 W s len = .error .bounds := by
  have hp : (sliceAbs ab s).pos < W64 := by
    have := slice_pos_le s hs
    have := (ok.inv s.w hs.1).2
    have := hs.2.1
    omega
  rw [Slice.slice1, Slice.position_eq ok s hs, Slice.slice2_err W s _ len hp hout]

def runSlice (W : Wrapped σ) : Slice σ → List ROp → List Out := runWith (Slice.step W)
def runSpec : RSpec → List ROp → List Out := runWith RSpec.step

def SliceN : Nat → Type
  | 0 => FileR
  | n + 1 => Slice (SliceN n)

def wrappedN : (n : Nat) → Wrapped (SliceN n)
  | 0 => fileWrapped
  | n + 1 => Slice.asWrapped (wrappedN n)

def absN : (n : Nat) → SliceN n → RSpec
  | 0 => id
  | n + 1 => sliceAbs (absN n)

def goodN : (n : Nat) → SliceN n → Prop
  | 0 => RSpec.Inv
  | n + 1 => sliceGood (goodN n) (absN n)

theorem wrappedN_ok : ∀ n, WrappedOK (wrappedN n) (absN n) (goodN n)
  | 0 => fileWrappedOK
  | n + 1 => sliceWrappedOK (wrappedN_ok n)

end Op2.Stream
