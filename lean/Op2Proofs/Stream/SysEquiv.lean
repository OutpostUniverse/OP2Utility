import Op2Proofs.Stream.Sys
import Op2Proofs.Stream.SysDerive
/-!
Every request except copy construction (on which the backends differ by design) acts on a well-formed object as `specOStep`
says of `Rd.abs`; hence a system of objects of any mix of backends answers every interleaved history as the list of abstract
readers `objs.map abs` does, and a system rooted in a memory reader and one rooted in a file reader over the same data answer
alike.
-/
namespace Op2.Stream

inductive AOut where
  | out (o : Out)
  | made (a : RSpec)
  | failed
  | unsupported

def OOut.abs : OOut → AOut
  | .out o => .out o
  | .made n => .made n.abs
  | .failed => .failed
  | .unsupported => .unsupported

def OOp.noCopy : OOp → Prop
  | .derive .copy => False
  | _ => True

def specOStep (s : RSpec) : OOp → AOut × RSpec
  | .op x => ((.out (RSpec.step s x).1), (RSpec.step s x).2)
  | .derive (.slice a b) =>
      if a + b ≤ s.data.length then (.made { data := (s.data.drop a).take b, pos := 0 }, s) else (.failed, s)
  | .derive (.here a) =>
      if s.pos + a ≤ s.data.length then (.made { data := (s.data.drop s.pos).take a, pos := 0 }, { s with pos := s.pos + a })
      else (.failed, s)
  | .derive .copy => (.unsupported, s)

theorem Rd.ostep_refines (r : Rd) (o : OOp) (hr : r.Good) (hn : r.NoFss) (ho : o.argOk) (hc : o.noCopy) :
    ((r.ostep o).1.abs, (r.ostep o).2.abs) = specOStep r.abs o ∧
    (r.ostep o).2.Good ∧ (r.ostep o).2.NoFss ∧ (∀ n, (r.ostep o).1 = .made n → n.Good ∧ n.NoFss) := by
  cases o with
  | op x =>
    obtain ⟨h1, h2⟩ := Rd.step_abs r x hr ho
    refine ⟨?_, Rd.step_good r x hr ho, Rd.step_noFss r x hn, by intro n hx; cases hx⟩
    simp only [Rd.ostep, OOut.abs, specOStep, h1, h2]
  | derive d =>
    cases d with
    | slice a b =>
      by_cases hin : a + b ≤ r.abs.data.length
      · obtain ⟨n, e, gn, nn, an⟩ := Rd.derive_slice_ok r a b hr hn ho.1 ho.2 hin
        simp only [Rd.ostep, e, OOut.abs, specOStep, if_pos hin, an, OOut.made.injEq]
        exact ⟨trivial, hr, hn, fun m hm => hm ▸ ⟨gn, nn⟩⟩
      · simp only [Rd.ostep, Rd.derive_slice_err r a b hr hn ho.1 ho.2 hin, OOut.abs, specOStep, if_neg hin]
        exact ⟨trivial, hr, hn, fun m hm => nomatch hm⟩
    | here a =>
      by_cases hin : r.abs.pos + a ≤ r.abs.data.length
      · obtain ⟨n, r', e, gn, nn, gr, nr, an, ar⟩ := Rd.derive_here_ok r a hr hn ho hin
        simp only [Rd.ostep, e, OOut.abs, specOStep, if_pos hin, an, ar, OOut.made.injEq]
        exact ⟨trivial, gr, nr, fun m hm => hm ▸ ⟨gn, nn⟩⟩
      · simp only [Rd.ostep, Rd.derive_here_err r a hr hn ho hin, OOut.abs, specOStep, if_neg hin]
        exact ⟨trivial, hr, hn, fun m hm => nomatch hm⟩
    | copy => exact hc.elim

abbrev SSys := List RSpec

def SSys.step (objs : SSys) (i : Nat) (o : OOp) : Option AOut × SSys :=
  match objs[i]? with
  | none => (none, objs)
  | some s =>
    match (specOStep s o).1 with
    | .made n => (some (.made n), objs.set i (specOStep s o).2 ++ [n])
    | x => (some x, objs.set i (specOStep s o).2)

def SSys.run : SSys → List (Nat × OOp) → List (Nat × Option AOut) × SSys
  | objs, [] => ([], objs)
  | objs, (i, o) :: h =>
    let (x, objs') := SSys.step objs i o
    let (xs, objs'') := SSys.run objs' h
    ((i, x) :: xs, objs'')

def Sys.Ok (objs : Sys) : Prop := ∀ r ∈ objs, r.Good ∧ r.NoFss

theorem SSys.step_eq {objs : SSys} {i : Nat} {s : RSpec} (h : objs[i]? = some s) (o : OOp) :
    SSys.step objs i o = (some (specOStep s o).1,
      objs.set i (specOStep s o).2 ++ match (specOStep s o).1 with | .made n => [n] | _ => []) := by
  simp only [SSys.step, h]
  cases (specOStep s o).1 <;> simp only [List.append_nil]

theorem Sys.step_refines (objs : Sys) (i : Nat) (o : OOp) (h : Sys.Ok objs) (ho : o.argOk) (hc : o.noCopy) :
    ((Sys.step objs i o).1.map OOut.abs, (Sys.step objs i o).2.map Rd.abs) = SSys.step (objs.map Rd.abs) i o ∧
    Sys.Ok (Sys.step objs i o).2 := by
  refine ⟨?_, Sys.step_all objs i o h fun r hr =>
    have ⟨_, g, n, hm⟩ := Rd.ostep_refines r o (h r hr).1 (h r hr).2 ho hc; ⟨⟨g, n⟩, hm⟩⟩
  cases hi : objs[i]? with
  | none => rw [Sys.step_none objs i o hi, SSys.step, List.getElem?_map, hi]; rfl
  | some r =>
    obtain ⟨hg, hn⟩ := h r (List.mem_of_getElem? hi)
    obtain ⟨e, _⟩ := Rd.ostep_refines r o hg hn ho hc
    rw [Sys.step_eq hi, SSys.step_eq (by rw [List.getElem?_map, hi]; rfl), ← e]
    cases (r.ostep o).1 <;> simp [OOut.abs, OOut.new]

theorem Sys.run_refines (h : List (Nat × OOp)) : ∀ objs : Sys, Sys.Ok objs → (∀ p ∈ h, p.2.argOk ∧ p.2.noCopy) →
    ((Sys.run objs h).1.map (fun p => (p.1, p.2.map OOut.abs)), (Sys.run objs h).2.map Rd.abs) = SSys.run (objs.map Rd.abs) h := by
  induction h with
  | nil => intro objs _ _; rfl
  | cons p h ih =>
    obtain ⟨i, o⟩ := p
    intro objs hok ha
    obtain ⟨ho, hc⟩ := ha (i, o) (List.mem_cons_self ..)
    obtain ⟨e, ok'⟩ := Sys.step_refines objs i o hok ho hc
    have ih' := ih (Sys.step objs i o).2 ok' (fun q hq => ha q (List.mem_cons_of_mem _ hq))
    simp only [Sys.run, SSys.run, List.map_cons]
    rw [← e]
    simp only
    rw [← ih']

theorem Sys.backend_equivalence (data : Bytes) (hd : data.length < W64) (h : List (Nat × OOp))
    (ha : ∀ p ∈ h, p.2.argOk ∧ p.2.noCopy) :
    let m := Sys.run [Rd.mem { data := data, pos := 0 }] h
    let f := Sys.run [Rd.file { data := data, pos := 0 }] h
    m.1.map (fun p => (p.1, p.2.map OOut.abs)) = f.1.map (fun p => (p.1, p.2.map OOut.abs)) ∧
    m.2.map Rd.abs = f.2.map Rd.abs := by
  have okm : Sys.Ok [Rd.mem { data := data, pos := 0 }] := List.forall_mem_singleton.mpr ⟨⟨Nat.zero_le _, hd⟩, trivial⟩
  have okf : Sys.Ok [Rd.file { data := data, pos := 0 }] := List.forall_mem_singleton.mpr ⟨⟨Nat.zero_le _, hd⟩, trivial⟩
  have e1 := Sys.run_refines h _ okm ha
  have e2 := Sys.run_refines h _ okf ha
  have : [Rd.mem { data := data, pos := 0 }].map Rd.abs = [Rd.file { data := data, pos := 0 }].map Rd.abs := rfl
  rw [this] at e1
  rw [← e2] at e1
  exact ⟨congrArg Prod.fst e1, congrArg Prod.snd e1⟩

def Sys.Rooted (root : Bytes) (objs : Sys) : Prop := ∀ r ∈ objs, r.Good ∧ IsWindow r.content root

theorem Rd.ostep_rooted (root : Bytes) (r : Rd) (o : OOp) (hr : r.Good ∧ IsWindow r.content root) (ho : o.argOk) :
    ((r.ostep o).2.Good ∧ IsWindow (r.ostep o).2.content root) ∧
    ∀ n, (r.ostep o).1 = .made n → n.Good ∧ IsWindow n.content root := by
  obtain ⟨hg, hw⟩ := hr
  rw [Rd.ostep_content]
  cases o with
  | op x => exact ⟨⟨Rd.step_good r x hg ho, hw⟩, fun n hn => nomatch hn⟩
  | derive d =>
    rcases Rd.ostep_derive r d with ⟨_, e⟩ | ⟨_, _, e⟩ | ⟨n, r', hd, e⟩ <;> rw [e]
    · exact ⟨⟨hg, hw⟩, fun n hn => nomatch hn⟩
    · exact ⟨⟨hg, hw⟩, fun n hn => nomatch hn⟩
    · obtain ⟨gn, gr, wn⟩ := Rd.derive_good r d hg ho n r' hd
      exact ⟨⟨gr, hw⟩, fun m hm => OOut.made.inj hm ▸ ⟨gn, wn.trans hw⟩⟩

theorem Sys.run_rooted (root : Bytes) (h : List (Nat × OOp)) (objs : Sys) (hr : Sys.Rooted root objs) (ha : ∀ p ∈ h, p.2.argOk) :
    Sys.Rooted root (Sys.run objs h).2 :=
  Sys.run_all h objs hr fun p hp r hr => Rd.ostep_rooted root r p.2 hr (ha p hp)

theorem Sys.rooted_init (root : Rd) (hr : root.Good) : Sys.Rooted root.content [root] :=
  List.forall_mem_singleton.mpr ⟨hr, IsWindow.refl _⟩

theorem Sys.run_content (h : List (Nat × OOp)) (objs : Sys) (j : Nat) (r : Rd) (hr : objs[j]? = some r) :
    ∃ r', (Sys.run objs h).2[j]? = some r' ∧ r'.content = r.content :=
  ⟨_, (Sys.run_projection h objs j r hr).2, runObj_content _ r⟩

theorem Sys.step_refused_noop (objs : Sys) (i : Nat) (o : OOp)
    (h : (Sys.step objs i o).1 = some (.out .err) ∨ (Sys.step objs i o).1 = some .failed ∨ (Sys.step objs i o).1 = some .unsupported ∨
         (Sys.step objs i o).1 = none) : (Sys.step objs i o).2 = objs := by
  cases hi : objs[i]? with
  | none => rw [Sys.step_none objs i o hi]
  | some r =>
    rw [Sys.step_eq hi] at h ⊢
    simp only [Option.some.injEq, reduceCtorEq, or_false] at h
    have hx : (r.ostep o).1.new = [] := by rcases h with h | h | h <;> rw [h] <;> rfl
    obtain ⟨hlt, hget⟩ := List.getElem?_eq_some_iff.mp hi
    rw [hx, List.append_nil, Rd.ostep_refused_noop r o h, ← hget, List.set_getElem_self]

end Op2.Stream
