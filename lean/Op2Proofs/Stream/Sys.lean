import Op2Model.StreamSys
/-!
# `Sys` (several live reader objects): one equation for a step, frame, projection, invariants
-/
namespace Op2.Stream

def OOut.new : OOut → List Rd
  | .made n => [n]
  | _ => []

theorem Sys.step_none (objs : Sys) (i : Nat) (o : OOp) (h : objs[i]? = none) : Sys.step objs i o = (none, objs) := by
  simp [Sys.step, h]

theorem Sys.step_eq {objs : Sys} {i : Nat} {r : Rd} (h : objs[i]? = some r) (o : OOp) :
    Sys.step objs i o = (some (r.ostep o).1, objs.set i (r.ostep o).2 ++ (r.ostep o).1.new) := by
  simp only [Sys.step, h]
  cases (r.ostep o).1 <;> simp only [OOut.new, List.append_nil]

theorem Sys.step_length_le (objs : Sys) (i : Nat) (o : OOp) : objs.length ≤ (Sys.step objs i o).2.length := by
  cases h : objs[i]? with
  | none => rw [Sys.step_none objs i o h]; exact Nat.le_refl _
  | some r => rw [Sys.step_eq h]; simp

theorem Sys.step_frame (objs : Sys) (i j : Nat) (o : OOp) (hij : j ≠ i) (hj : j < objs.length) :
    (Sys.step objs i o).2[j]? = objs[j]? := by
  cases h : objs[i]? with
  | none => rw [Sys.step_none objs i o h]
  | some r => rw [Sys.step_eq h, List.getElem?_append_left (by simpa using hj), List.getElem?_set_ne (Ne.symm hij)]

theorem Sys.step_self (objs : Sys) (i : Nat) (o : OOp) (r : Rd) (h : objs[i]? = some r) :
    (Sys.step objs i o).1 = some (r.ostep o).1 ∧ (Sys.step objs i o).2[i]? = some (r.ostep o).2 := by
  have hi := (List.getElem?_eq_some_iff.mp h).1
  rw [Sys.step_eq h, List.getElem?_append_left (by simpa using hi), List.getElem?_set_self hi]
  exact ⟨rfl, rfl⟩

theorem Sys.step_all {P : Rd → Prop} (objs : Sys) (i : Nat) (o : OOp) (h : ∀ r ∈ objs, P r)
    (hstep : ∀ r ∈ objs, P (r.ostep o).2 ∧ ∀ n, (r.ostep o).1 = .made n → P n) : ∀ r ∈ (Sys.step objs i o).2, P r := by
  cases hi : objs[i]? with
  | none => rw [Sys.step_none objs i o hi]; exact h
  | some r =>
    obtain ⟨h1, h2⟩ := hstep r (List.mem_of_getElem? hi)
    rw [Sys.step_eq hi]
    intro q hq
    rcases List.mem_append.mp hq with hq | hq
    · rcases List.mem_or_eq_of_mem_set hq with hq | hq
      · exact h q hq
      · exact hq ▸ h1
    · cases hx : (r.ostep o).1 <;> rw [hx] at hq <;> simp only [OOut.new, List.mem_singleton, List.not_mem_nil] at hq
      exact hq ▸ h2 _ hx

theorem Sys.run_all {P : Rd → Prop} (h : List (Nat × OOp)) : ∀ objs : Sys, (∀ r ∈ objs, P r) →
    (∀ p ∈ h, ∀ r, P r → P (r.ostep p.2).2 ∧ ∀ n, (r.ostep p.2).1 = .made n → P n) → ∀ r ∈ (Sys.run objs h).2, P r := by
  induction h with
  | nil => intro objs hp _; exact hp
  | cons p h ih =>
    intro objs hp hs
    simp only [Sys.run]
    exact ih _ (Sys.step_all objs p.1 p.2 hp fun r hr => hs p (List.mem_cons_self ..) r (hp r hr))
      (fun q hq => hs q (List.mem_cons_of_mem _ hq))

def projOps (j : Nat) (h : List (Nat × OOp)) : List OOp := (h.filter (fun p => p.1 == j)).map (·.2)
def projOuts (j : Nat) (xs : List (Nat × Option OOut)) : List (Option OOut) := (xs.filter (fun p => p.1 == j)).map (·.2)

theorem Sys.run_projection (h : List (Nat × OOp)) : ∀ (objs : Sys) (j : Nat) (r : Rd), objs[j]? = some r →
    projOuts j (Sys.run objs h).1 = (runObj r (projOps j h)).1.map some ∧
    (Sys.run objs h).2[j]? = some (runObj r (projOps j h)).2 := by
  induction h with
  | nil => intro objs j r hr; simp [Sys.run, projOuts, projOps, runObj, hr]
  | cons p h ih =>
    obtain ⟨i, o⟩ := p
    intro objs j r hr
    by_cases hij : i = j
    · subst hij
      obtain ⟨h1, h2⟩ := Sys.step_self objs i o r hr
      obtain ⟨ih1, ih2⟩ := ih (Sys.step objs i o).2 i (r.ostep o).2 h2
      have e1 : projOps i ((i, o) :: h) = o :: projOps i h := by simp [projOps]
      have e2 : ∀ x xs, projOuts i ((i, x) :: xs) = x :: projOuts i xs := by intro x xs; simp [projOuts]
      simp only [Sys.run, e1, runObj, e2, List.map_cons]
      exact ⟨by rw [ih1, h1], ih2⟩
    · have hj := (List.getElem?_eq_some_iff.mp hr).1
      have hf := Sys.step_frame objs i j o (Ne.symm hij) hj
      rw [hr] at hf
      obtain ⟨ih1, ih2⟩ := ih (Sys.step objs i o).2 j r hf
      have hb : (i == j) = false := by simpa using hij
      have e1 : projOps j ((i, o) :: h) = projOps j h := by simp [projOps, hb]
      have e2 : ∀ x xs, projOuts j ((i, x) :: xs) = projOuts j xs := by intro x xs; simp [projOuts, hb]
      simp only [Sys.run, e1, e2]
      exact ⟨ih1, ih2⟩

theorem Sys.run_length_le (h : List (Nat × OOp)) : ∀ objs : Sys, objs.length ≤ (Sys.run objs h).2.length := by
  induction h with
  | nil => intro objs; simp [Sys.run]
  | cons p h ih =>
    intro objs
    simp only [Sys.run]
    exact Nat.le_trans (Sys.step_length_le objs p.1 p.2) (ih _)

theorem Sys.run_append (h1 h2 : List (Nat × OOp)) : ∀ objs : Sys,
    Sys.run objs (h1 ++ h2) = ((Sys.run objs h1).1 ++ (Sys.run (Sys.run objs h1).2 h2).1, (Sys.run (Sys.run objs h1).2 h2).2) := by
  induction h1 with
  | nil => intro objs; simp [Sys.run]
  | cons p h ih => intro objs; simp only [List.cons_append, Sys.run, ih]

end Op2.Stream
