import Op2Proofs.Stream.SysObj
import Op2Proofs.ExceptChain
/-!
Making a new object out of an existing one: `Slice(start, len)`, `Slice(len)` at the cursor, copy construction.  The two
slice-creating requests succeed under the same condition — in ℕ, on what the object exposes — on every backend, and create
objects with the same `abs`.  Copy construction is not part of the refinement: a copied `FileReader` reopens its file at
position 0 and a copied file slice starts at the beginning of its window, whereas a copied memory reader keeps its position
(a documented difference between the backends, modelled in `Rd.derive`).
-/
namespace Op2.Stream

def DOp.argOk : DOp → Prop
  | .slice a b => a < W64 ∧ b < W64
  | .here a => a < W64
  | .copy => True

def OOp.argOk : OOp → Prop
  | .op o => o.argOk
  | .derive d => d.argOk

def IsWindow (l d : Bytes) : Prop := ∃ a b, l = (d.drop a).take b

theorem IsWindow.refl (d : Bytes) : IsWindow d d := ⟨0, d.length, by simp⟩

theorem IsWindow.trans {l m d : Bytes} (h1 : IsWindow l m) (h2 : IsWindow m d) : IsWindow l d := by
  obtain ⟨a, b, rfl⟩ := h1
  obtain ⟨c, e, rfl⟩ := h2
  exact ⟨c + a, min b (e - a), take_drop_window d c e a b⟩

theorem inv_rewind (f : RSpec) (h : f.Inv) : RSpec.Inv { f with pos := 0 } := ⟨Nat.zero_le _, h.2⟩

theorem Rd.derive_slice_ok (r : Rd) (a b : Nat) (hr : r.Good) (hn : r.NoFss) (ha : a < W64) (hb : b < W64)
    (hin : a + b ≤ r.abs.data.length) :
    ∃ n, r.derive (.slice a b) = some (.ok (n, r)) ∧ n.Good ∧ n.NoFss ∧
      n.abs = { data := (r.abs.data.drop a).take b, pos := 0 } := by
  cases r with
  | mem m =>
    replace hin : a + b ≤ m.data.length := hin
    refine ⟨Rd.mem _, by simp only [Rd.derive, MemR.slice2_eq hr ha hb, if_pos hin]; rfl, ⟨Nat.zero_le _, ?_⟩, trivial, rfl⟩
    simp only [List.length_take, List.length_drop]
    exact Nat.lt_of_le_of_lt (Nat.min_le_left ..) hb
  | file f =>
    obtain ⟨s, e, g, x⟩ := Slice.create_ok fileWrappedOK _ (inv_rewind f hr) a b hin
    exact ⟨Rd.fsl s, by simp only [Rd.derive, e]; rfl, g, trivial, x⟩
  | fsl s =>
    obtain ⟨t, e, g, x⟩ := Slice.slice2_ok fileWrappedOK s hr a b (sliceAbs_len s hr ▸ hin)
    exact ⟨Rd.fsl t, by simp only [Rd.derive, e]; rfl, g, trivial, x⟩
  | fss s => exact hn.elim

theorem Rd.derive_slice_err (r : Rd) (a b : Nat) (hr : r.Good) (hn : r.NoFss) (ha : a < W64) (hb : b < W64)
    (hout : ¬ a + b ≤ r.abs.data.length) : r.derive (.slice a b) = some (.error .bounds) := by
  cases r with
  | mem m =>
    replace hout : ¬ a + b ≤ m.data.length := hout
    simp only [Rd.derive, MemR.slice2_eq hr ha hb, if_neg hout]; rfl
  | file f => simp only [Rd.derive, Slice.create_err fileWrappedOK _ (inv_rewind f hr) a b ha hout]; rfl
  | fsl s => simp only [Rd.derive, Slice.slice2_err fileWrapped s a b ha (sliceAbs_len s hr ▸ hout)]; rfl
  | fss s => exact hn.elim

theorem Rd.derive_here_ok (r : Rd) (a : Nat) (hr : r.Good) (hn : r.NoFss) (ha : a < W64)
    (hin : r.abs.pos + a ≤ r.abs.data.length) :
    ∃ n r', r.derive (.here a) = some (.ok (n, r')) ∧ n.Good ∧ n.NoFss ∧ r'.Good ∧ r'.NoFss ∧
      n.abs = { data := (r.abs.data.drop r.abs.pos).take a, pos := 0 } ∧ r'.abs = { r.abs with pos := r.abs.pos + a } := by
  cases r with
  | mem m =>
    replace hin : m.pos + a ≤ m.data.length := hin
    refine ⟨Rd.mem { data := (m.data.drop m.pos).take a, pos := 0 }, Rd.mem { m with pos := m.pos + a },
      by simp only [Rd.derive, MemR.slice1_eq hr ha, if_pos hin]; rfl, ⟨Nat.zero_le _, ?_⟩, trivial, ⟨hin, hr.2⟩, trivial, rfl, rfl⟩
    simp only [List.length_take, List.length_drop]
    exact Nat.lt_of_le_of_lt (Nat.min_le_left ..) ha
  | file f =>
    replace hin : f.pos + a ≤ f.data.length := hin
    obtain ⟨s, e, g, x⟩ := Slice.create_ok fileWrappedOK _ (inv_rewind f hr) f.pos a hin
    refine ⟨Rd.fsl s, Rd.file { f with pos := f.pos + a }, ?_, g, trivial, ⟨hin, hr.2⟩, trivial, x, rfl⟩
    simp only [Rd.derive, e, FileR.fwd, u64_of_lt (Nat.lt_of_le_of_lt hin hr.2), if_neg (Nat.not_lt.mpr (Nat.le_add_right ..))]
  | fsl s =>
    obtain ⟨t, s', e, gt, gs, xt, xs⟩ := Slice.slice1_ok fileWrappedOK s hr a (sliceAbs_len s hr ▸ hin)
    exact ⟨Rd.fsl t, Rd.fsl s', by simp only [Rd.derive, e]; rfl, gt, trivial, gs, trivial, xt, xs⟩
  | fss s => exact hn.elim

theorem Rd.derive_here_err (r : Rd) (a : Nat) (hr : r.Good) (hn : r.NoFss) (ha : a < W64)
    (hout : ¬ r.abs.pos + a ≤ r.abs.data.length) : r.derive (.here a) = some (.error .bounds) := by
  cases r with
  | mem m =>
    replace hout : ¬ m.pos + a ≤ m.data.length := hout
    simp only [Rd.derive, MemR.slice1_eq hr ha, if_neg hout]; rfl
  | file f =>
    simp only [Rd.derive, Slice.create_err fileWrappedOK _ (inv_rewind f hr) f.pos a (Nat.lt_of_le_of_lt hr.1 hr.2) hout]
  | fsl s => simp only [Rd.derive, Slice.slice1_err fileWrappedOK s hr a (sliceAbs_len s hr ▸ hout)]; rfl
  | fss s => exact hn.elim

theorem Rd.ostep_derive (r : Rd) (d : DOp) :
    (r.derive d = none ∧ r.ostep (.derive d) = (.unsupported, r)) ∨
    (∃ e, r.derive d = some (.error e) ∧ r.ostep (.derive d) = (.failed, r)) ∨
    (∃ n r', r.derive d = some (.ok (n, r')) ∧ r.ostep (.derive d) = (.made n, r')) := by
  simp only [Rd.ostep]
  cases hd : r.derive d with
  | none => exact .inl ⟨rfl, rfl⟩
  | some e =>
    cases e with
    | error e => exact .inr (.inl ⟨e, rfl, rfl⟩)
    | ok p => exact .inr (.inr ⟨p.1, p.2, rfl, rfl⟩)

theorem Rd.noFss_of_derive {r : Rd} {d : DOp} {x : Except Err (Rd × Rd)} (h : r.derive d = some x) : r.NoFss := by
  cases r <;> first | trivial | (cases d <;> cases h)

theorem Rd.derive_good (r : Rd) (d : DOp) (hr : r.Good) (hd : d.argOk) (n r' : Rd) (h : r.derive d = some (.ok (n, r'))) :
    n.Good ∧ r'.Good ∧ IsWindow n.content r.content := by
  have hn := Rd.noFss_of_derive h
  cases d with
  | slice a b =>
    by_cases hin : a + b ≤ r.abs.data.length
    · obtain ⟨m, e, gm, _, am⟩ := Rd.derive_slice_ok r a b hr hn hd.1 hd.2 hin
      rw [e] at h; cases h
      exact ⟨gm, hr, a, b, by rw [← Rd.abs_content, am, Rd.abs_content]⟩
    · rw [Rd.derive_slice_err r a b hr hn hd.1 hd.2 hin] at h; cases h
  | here a =>
    by_cases hin : r.abs.pos + a ≤ r.abs.data.length
    · obtain ⟨m, q, e, gm, _, gq, _, am, _⟩ := Rd.derive_here_ok r a hr hn hd hin
      rw [e] at h; cases h
      exact ⟨gm, gq, r.abs.pos, a, by rw [← Rd.abs_content, am, Rd.abs_content]⟩
    · rw [Rd.derive_here_err r a hr hn hd hin] at h; cases h
  | copy =>
    cases r with
    | mem m => cases h; exact ⟨hr, hr, IsWindow.refl _⟩
    | file f => cases h; exact ⟨inv_rewind f hr, hr, IsWindow.refl _⟩
    | fsl s =>
      obtain ⟨t, e, gt, xt⟩ := Slice.create_ok fileWrappedOK s.w hr.1 s.start s.len hr.2.1
      simp only [Rd.derive, e, Except.map, Option.some.injEq, Except.ok.injEq, Prod.mk.injEq] at h
      obtain ⟨rfl, rfl⟩ := h
      exact ⟨gt, hr, 0, s.len, by rw [← Rd.abs_content, Rd.abs, xt]; simp only [Rd.content, id, List.drop_zero, List.take_take, Nat.min_self]⟩
    | fss s => exact hn.elim

theorem MemR.slice1_fwd {m : MemR} {a : Nat} {x : MemR × MemR} (h : MemR.slice1 m a = .ok x) : MemR.fwd m a = .ok x.2 := by
  unfold MemR.slice1 at h
  split at h
  · cases h
  · split at h <;> cases h
    assumption

theorem Slice.slice1_fwd {σ : Type} {W : Wrapped σ} {s : Slice σ} {a : Nat} {x : Slice σ × Slice σ}
    (h : Slice.slice1 W s a = .ok x) : Slice.fwd W s a = .ok x.2 := by
  unfold Slice.slice1 at h
  split at h
  · cases h
  · split at h <;> cases h
    assumption

/-- the parent is returned as it was, or moved by its own `fwd` -/
theorem Rd.derive_content (r : Rd) (d : DOp) (n r' : Rd) (h : r.derive d = some (.ok (n, r'))) : r'.content = r.content := by
  cases r with
  | fss s => cases d <;> cases h
  | mem m =>
    cases d <;> simp only [Rd.derive, Option.some.injEq] at h
    case slice a b => obtain ⟨_, _, e⟩ := Except.map_eq_ok.mp h; cases e; rfl
    case here a => obtain ⟨x, hx, e⟩ := Except.map_eq_ok.mp h; cases e; exact keeps_mem.fwd m a x.2 (MemR.slice1_fwd hx)
    case copy => cases h; rfl
  | file f =>
    cases d <;> simp only [Rd.derive, Option.some.injEq] at h
    case slice a b => obtain ⟨_, _, e⟩ := Except.map_eq_ok.mp h; cases e; rfl
    case here a =>
      split at h
      · cases h
      · split at h <;> cases h
        exact keeps_file.fwd f a _ ‹_›
    case copy => cases h; rfl
  | fsl s =>
    cases d <;> simp only [Rd.derive, Option.some.injEq] at h
    case slice a b => obtain ⟨_, _, e⟩ := Except.map_eq_ok.mp h; cases e; rfl
    case here a =>
      obtain ⟨x, hx, e⟩ := Except.map_eq_ok.mp h; cases e
      exact congrArg windowOf ((keeps_slice keeps_file).fwd s a x.2 (Slice.slice1_fwd hx))
    case copy => obtain ⟨_, _, e⟩ := Except.map_eq_ok.mp h; cases e; rfl

theorem Rd.ostep_content (r : Rd) (o : OOp) : (r.ostep o).2.content = r.content := by
  cases o with
  | op x => exact Rd.step_content r x
  | derive d =>
    rcases Rd.ostep_derive r d with ⟨_, e⟩ | ⟨_, _, e⟩ | ⟨n, r', hd, e⟩ <;> rw [e]
    exact Rd.derive_content r d n r' hd

theorem runObj_content (ops : List OOp) : ∀ r : Rd, (runObj r ops).2.content = r.content := by
  induction ops with
  | nil => intro r; rfl
  | cons o os ih => intro r; simp only [runObj]; rw [ih, Rd.ostep_content]

theorem Rd.ostep_refused_noop (r : Rd) (o : OOp)
    (h : (r.ostep o).1 = .out .err ∨ (r.ostep o).1 = .failed ∨ (r.ostep o).1 = .unsupported) : (r.ostep o).2 = r := by
  cases o with
  | op x =>
    rcases h with h | h | h
    · exact Rd.step_err_noop r x (OOut.out.inj h)
    · cases h
    · cases h
  | derive d =>
    rcases Rd.ostep_derive r d with ⟨_, e⟩ | ⟨_, _, e⟩ | ⟨n, r', _, e⟩ <;> rw [e] at h ⊢
    rcases h with h | h | h <;> cases h

end Op2.Stream
