import Op2Model.Stream
import Op2Proofs.Codec
namespace Op2.Stream
open Op2

/-- by recursion what `writePrefixed` spells with `List.range` -/
def encLE : Nat → Nat → Bytes
  | 0, _ => []
  | w + 1, v => UInt8.ofNat v :: encLE w (v / 256)

theorem range_map_eq_encLE (w v : Nat) : (List.range w).map (fun i => UInt8.ofNat (v / 2 ^ (8 * i))) = encLE w v := by
  induction w generalizing v with
  | zero => rfl
  | succ w ih =>
    rw [List.range_succ_eq_map, List.map_cons, List.map_map, encLE, ← ih (v / 256)]
    simp only [Nat.mul_zero, Nat.pow_zero, Nat.div_one]
    congr 1
    apply List.map_congr_left
    intro i _
    simp only [Function.comp, Nat.div_div_eq_div_mul]
    congr 2
    rw [show 8 * (i + 1) = 8 + 8 * i by omega, Nat.pow_add]

theorem encLE_length (w v : Nat) : (encLE w v).length = w := by
  induction w generalizing v with
  | zero => rfl
  | succ w ih => simp [encLE, ih]

theorem leVal_encLE (w v : Nat) : leVal (encLE w v) = v % 2 ^ (8 * w) := by
  induction w generalizing v with
  | zero => simp [encLE, leVal, Nat.mod_one]
  | succ w ih =>
    rw [encLE, leVal, ih, UInt8.toNat_ofNat', show 8 * (w + 1) = 8 + 8 * w by omega, Nat.pow_add, Nat.mod_mul]

theorem leVal_lt (b : Bytes) : leVal b < 2 ^ (8 * b.length) := by
  induction b with
  | nil => simp [leVal]
  | cons c t ih =>
    have hc := c.toNat_lt
    rw [leVal, List.length_cons, show 8 * (t.length + 1) = 8 + 8 * t.length by omega, Nat.pow_add]
    have : (2:Nat) ^ 8 = 256 := by decide
    rw [this]; omega

theorem encLE_leVal (b : Bytes) : encLE b.length (leVal b) = b := by
  induction b with
  | nil => rfl
  | cons c t ih =>
    rw [List.length_cons, encLE, leVal, Codec.add_mul_div, Codec.ofNat_eq_of_mod (Codec.add_mul_mod c _), ih]

end Op2.Stream
