import Op2Model.Stream
import Op2Proofs.Word
/-!
`MemoryReader` and `SliceReader<W>` derive their eight public operations from `read`, `readPartial`, `seek`, `fwd`, `back`
in the same way (`Wrapped.step`).  `WrappedExact W ab G` says that the five primitives behave as the abstract reader's do;
`WrappedExact.refines` turns that, once, into `Refines W.step ab G`.
-/
namespace Op2.Stream
open Op2

theorem take_drop_window (d : Bytes) (a b c e : Nat) :
    (((d.drop a).take b).drop c).take e = (d.drop (a + c)).take (min e (b - c)) := by
  rw [List.drop_take, List.take_take, List.drop_drop]

theorem RSpec.window_length (s : RSpec) (k : Nat) : (s.window k).length = min k (s.data.length - s.pos) := by
  simp only [RSpec.window, List.length_take, List.length_drop]

theorem RSpec.step_inv (s : RSpec) (h : s.Inv) (op : ROp) : (RSpec.step s op).2.Inv := by
  obtain ⟨h1, h2⟩ := h
  cases op <;> simp only [RSpec.step] <;> (try split) <;> refine ⟨?_, h2⟩ <;> first | exact h1 | (show _ ≤ _; simp only; omega)

theorem RSpec.step_data (s : RSpec) (op : ROp) : (RSpec.step s op).2.data = s.data := by
  cases op <;> simp only [RSpec.step] <;> (try split) <;> rfl

theorem RSpec.step_err_noop (s : RSpec) (op : ROp) (h : (RSpec.step s op).1 = .err) : (RSpec.step s op).2 = s := by
  cases op <;> simp only [RSpec.step] at h ⊢ <;> first | cases h | (split <;> simp_all)

namespace Wrapped
variable {σ : Type} (W : Wrapped σ)

/-- `BidirectionalReader::Peek` -/
def peek (s : σ) (k : Nat) : Except Err (Bytes × σ) :=
  match W.read s k with
  | .error e => .error e
  | .ok (b, s') => match W.back s' k with
    | .error e => .error e
    | .ok s'' => .ok (b, s'')

/-- what `MemR.step` and `Slice.step W` both spell out: an exception leaves the object as it was -/
def step (s : σ) : ROp → Out × σ
  | .read k => match W.read s k with | .ok (b, s') => (.bytes b, s') | .error _ => (.err, s)
  | .readPartial k => let (b, s') := W.readPartial s k; (.bytes b, s')
  | .peek k => match peek W s k with | .ok (b, s') => (.bytes b, s') | .error _ => (.err, s)
  | .seek p => match W.seek s p with | .ok s' => (.unit, s') | .error _ => (.err, s)
  | .fwd d => match W.fwd s d with | .ok s' => (.unit, s') | .error _ => (.err, s)
  | .back d => match W.back s d with | .ok s' => (.unit, s') | .error _ => (.err, s)
  | .seekBegin => match W.seek s 0 with | .ok s' => (.unit, s') | .error _ => (.err, s)
  | .seekEnd => match W.fwd s (u64 (W64 + W.length s - W.position s)) with | .ok s' => (.unit, s') | .error _ => (.err, s)

theorem peek_eq_ok {W : Wrapped σ} {s s2 : σ} {k : Nat} {b : Bytes} :
    W.peek s k = .ok (b, s2) ↔ ∃ s1, W.read s k = .ok (b, s1) ∧ W.back s1 k = .ok s2 := by
  unfold peek
  constructor
  · intro h
    split at h
    · cases h
    · next b' s1 h1 =>
      split at h
      · cases h
      · next s2' h2 => cases h; exact ⟨s1, h1, h2⟩
  · rintro ⟨s1, h1, h2⟩
    rw [h1]; simp only [h2]

theorem step_err_noop (s : σ) (op : ROp) (h : (W.step s op).1 = .err) : (W.step s op).2 = s := by
  cases op <;> simp only [step] at h ⊢
  case readPartial => cases h
  all_goals split <;> first | rfl | (simp only [*] at h; cases h)

end Wrapped

/-- no successful primitive of `W` changes `key` (the data of a memory or file reader, the window of a slice) -/
structure Keeps {σ κ : Type} (W : Wrapped σ) (key : σ → κ) : Prop where
  read : ∀ s k b s', W.read s k = .ok (b, s') → key s' = key s
  readPartial : ∀ s k, key (W.readPartial s k).2 = key s
  seek : ∀ s p s', W.seek s p = .ok s' → key s' = key s
  fwd : ∀ s d s', W.fwd s d = .ok s' → key s' = key s
  back : ∀ s d s', W.back s d = .ok s' → key s' = key s

theorem Wrapped.step_keeps {σ κ : Type} {W : Wrapped σ} {key : σ → κ} (K : Keeps W key) (s : σ) (op : ROp) :
    key (W.step s op).2 = key s := by
  cases op <;> simp only [Wrapped.step]
  case readPartial k => exact K.readPartial s k
  case peek k =>
    split
    · next h => obtain ⟨s1, h1, h2⟩ := Wrapped.peek_eq_ok.mp h; exact (K.back _ _ _ h2).trans (K.read _ _ _ _ h1)
    · rfl
  case read => split <;> first | exact K.read _ _ _ _ ‹_› | rfl
  case seek | seekBegin => split <;> first | exact K.seek _ _ _ ‹_› | rfl
  case fwd | seekEnd => split <;> first | exact K.fwd _ _ _ ‹_› | rfl
  case back => split <;> first | exact K.back _ _ _ ‹_› | rfl

-- the two sides differ only in the names of their `match` auxiliaries, which `rfl` does not see through
theorem MemR.peek_eq_wrapped (s : MemR) (k : Nat) : MemR.peek s k = memWrapped.peek s k := by
  simp only [MemR.peek, Wrapped.peek, memWrapped]
  split <;> simp only [*]
  split <;> simp only [*]

theorem MemR.step_eq : MemR.step = memWrapped.step := by
  funext s op
  cases op <;> simp only [MemR.step, MemR.peek_eq_wrapped, MemR.seekEnd, Wrapped.step, memWrapped] <;>
    split <;> simp only [*]

/-- seen through `ab`, on `G`-states and 64-bit arguments, `step` answers and moves as `RSpec.step`, and keeps `G` -/
structure Refines {σ : Type} (step : σ → ROp → Out × σ) (ab : σ → RSpec) (G : σ → Prop) : Prop where
  inv : ∀ s, G s → (ab s).Inv
  step : ∀ s op, G s → op.argOk →
    (step s op).1 = (RSpec.step (ab s) op).1 ∧ G (step s op).2 ∧ ab (step s op).2 = (RSpec.step (ab s) op).2

theorem Refines.step_pair {σ : Type} {step : σ → ROp → Out × σ} {ab : σ → RSpec} {G : σ → Prop} (R : Refines step ab G)
    (s : σ) (op : ROp) (hs : G s) (ha : op.argOk) :
    ∃ s', step s op = ((RSpec.step (ab s) op).1, s') ∧ G s' ∧ ab s' = (RSpec.step (ab s) op).2 :=
  ⟨(step s op).2, Prod.ext (R.step s op hs ha).1 rfl, (R.step s op hs ha).2⟩

theorem Refines.hist {σ : Type} {step : σ → ROp → Out × σ} {ab : σ → RSpec} {G : σ → Prop} (R : Refines step ab G)
    (ops : List ROp) : ∀ s, G s → (∀ op ∈ ops, op.argOk) → runWith step s ops = runWith RSpec.step (ab s) ops := by
  induction ops with
  | nil => intros; rfl
  | cons op ops ih =>
    intro s hs ha
    obtain ⟨e, g, a⟩ := R.step s op hs (ha op (by simp))
    simp only [runWith]
    rw [e, ih _ g (fun o ho => ha o (by simp [ho])), a]

/-- what `SliceReader` may assume of the stream it wraps: nothing about out-of-bounds calls -/
structure WrappedOK {σ : Type} (W : Wrapped σ) (ab : σ → RSpec) (G : σ → Prop) : Prop where
  inv : ∀ s, G s → (ab s).Inv
  len : ∀ s, G s → W.length s = (ab s).data.length
  pos : ∀ s, G s → W.position s = (ab s).pos
  read : ∀ s k, G s → (ab s).pos + k ≤ (ab s).data.length →
    ∃ s', W.read s k = .ok ((ab s).window k, s') ∧ G s' ∧ ab s' = { ab s with pos := (ab s).pos + k }
  readPartial : ∀ s k, G s → (ab s).pos + k ≤ (ab s).data.length →
    ∃ s', W.readPartial s k = ((ab s).window k, s') ∧ G s' ∧ ab s' = { ab s with pos := (ab s).pos + k }
  seek : ∀ s p, G s → p ≤ (ab s).data.length →
    ∃ s', W.seek s p = .ok s' ∧ G s' ∧ ab s' = { ab s with pos := p }
  fwd : ∀ s d, G s → (ab s).pos + d ≤ (ab s).data.length →
    ∃ s', W.fwd s d = .ok s' ∧ G s' ∧ ab s' = { ab s with pos := (ab s).pos + d }
  back : ∀ s d, G s → d ≤ (ab s).pos →
    ∃ s', W.back s d = .ok s' ∧ G s' ∧ ab s' = { ab s with pos := (ab s).pos - d }

/-- a reader class that checks its own bounds.  Only `MemoryReader::SeekForward` (a sum with a wrap test) needs its
    argument below 2^64; the subtraction guards cannot wrap. -/
structure WrappedExact {σ : Type} (W : Wrapped σ) (ab : σ → RSpec) (G : σ → Prop) : Prop extends WrappedOK W ab G where
  readPartial_clamp : ∀ s k, G s →
    W.readPartial s k = W.readPartial s (min k ((ab s).data.length - (ab s).pos))
  read_err : ∀ s k, G s → ¬ (ab s).pos + k ≤ (ab s).data.length → W.read s k = .error .bounds
  seek_err : ∀ s p, G s → ¬ p ≤ (ab s).data.length → W.seek s p = .error .bounds
  fwd_err : ∀ s d, G s → d < W64 → ¬ (ab s).pos + d ≤ (ab s).data.length → W.fwd s d = .error .bounds
  back_err : ∀ s d, G s → ¬ d ≤ (ab s).pos → W.back s d = .error .bounds

variable {σ : Type} {W : Wrapped σ} {ab : σ → RSpec} {G : σ → Prop}

theorem WrappedExact.refines (ex : WrappedExact W ab G) : Refines W.step ab G where
  inv := ex.inv
  step s op hs ha := by
    obtain ⟨hp, hl⟩ := ex.inv s hs
    cases op <;> simp only [Wrapped.step, RSpec.step]
    case read k =>
      by_cases c : (ab s).pos + k ≤ (ab s).data.length
      · obtain ⟨s', e, g, a⟩ := ex.read s k hs c
        simp only [e, if_pos c]; exact ⟨trivial, g, a⟩
      · simp only [ex.read_err s k hs c, if_neg c]; exact ⟨trivial, hs, trivial⟩
    case readPartial k =>
      obtain ⟨s', e, g, a⟩ := ex.readPartial s (min k ((ab s).data.length - (ab s).pos)) hs (by omega)
      simp only [ex.readPartial_clamp s k hs, e]; exact ⟨trivial, g, a⟩
    case peek k =>
      by_cases c : (ab s).pos + k ≤ (ab s).data.length
      · obtain ⟨s', e, g, a⟩ := ex.read s k hs c
        obtain ⟨s'', e2, g2, a2⟩ := ex.back s' k g (by rw [a]; exact Nat.le_add_left ..)
        simp only [Wrapped.peek, e, e2, if_pos c]
        refine ⟨trivial, g2, ?_⟩
        rw [a2, a]; simp
      · simp only [Wrapped.peek, ex.read_err s k hs c, if_neg c]; exact ⟨trivial, hs, trivial⟩
    case seek p =>
      by_cases c : p ≤ (ab s).data.length
      · obtain ⟨s', e, g, a⟩ := ex.seek s p hs c
        simp only [e, if_pos c]; exact ⟨trivial, g, a⟩
      · simp only [ex.seek_err s p hs c, if_neg c]; exact ⟨trivial, hs, trivial⟩
    case fwd d =>
      by_cases c : (ab s).pos + d ≤ (ab s).data.length
      · obtain ⟨s', e, g, a⟩ := ex.fwd s d hs c
        simp only [e, if_pos c]; exact ⟨trivial, g, a⟩
      · simp only [ex.fwd_err s d hs ha c, if_neg c]; exact ⟨trivial, hs, trivial⟩
    case back d =>
      by_cases c : d ≤ (ab s).pos
      · obtain ⟨s', e, g, a⟩ := ex.back s d hs c
        simp only [e, if_pos c]; exact ⟨trivial, g, a⟩
      · simp only [ex.back_err s d hs c, if_neg c]; exact ⟨trivial, hs, trivial⟩
    case seekBegin =>
      obtain ⟨s', e, g, a⟩ := ex.seek s 0 hs (Nat.zero_le _)
      simp only [e]; exact ⟨trivial, g, a⟩
    case seekEnd =>
      obtain ⟨s', e, g, a⟩ := ex.fwd s ((ab s).data.length - (ab s).pos) hs (by omega)
      simp only [ex.len s hs, ex.pos s hs, u64_sub hp hl, e]
      refine ⟨trivial, g, ?_⟩
      rw [a]; simp only [RSpec.mk.injEq, true_and]; omega

namespace MemR
variable {s : MemR}

theorem read_eq (h : s.Inv) (k : Nat) : MemR.read s k =
    if s.pos + k ≤ s.data.length then .ok (s.window k, { s with pos := s.pos + k }) else .error .bounds := by
  obtain ⟨h1, h2⟩ := h
  rw [MemR.read, u64_sub h1 h2]
  by_cases c : s.pos + k ≤ s.data.length
  · rw [if_neg (by omega), if_pos c, u64_of_lt (by omega)]
  · rw [if_pos (by omega), if_neg c]

theorem readPartial_eq (h : s.Inv) (k : Nat) : MemR.readPartial s k =
    (s.window (min k (s.data.length - s.pos)), { s with pos := s.pos + min k (s.data.length - s.pos) }) := by
  obtain ⟨h1, h2⟩ := h
  have e : (if k < s.data.length - s.pos then k else s.data.length - s.pos) = min k (s.data.length - s.pos) := by
    split <;> omega
  simp only [MemR.readPartial, u64_sub h1 h2, e]
  rw [u64_of_lt (by omega)]

theorem seek_eq (p : Nat) : MemR.seek s p = if p ≤ s.data.length then .ok { s with pos := p } else .error .bounds := by
  unfold MemR.seek
  by_cases c : p ≤ s.data.length
  · rw [if_neg (by omega), if_pos c]
  · rw [if_pos (by omega), if_neg c]

theorem fwd_eq (h : s.Inv) (d : Nat) (hd : d < W64) : MemR.fwd s d =
    if s.pos + d ≤ s.data.length then .ok { s with pos := s.pos + d } else .error .bounds := by
  obtain ⟨h1, h2⟩ := h
  simp only [MemR.fwd]
  by_cases c : s.pos + d ≤ s.data.length
  · rw [u64_of_lt (by omega), if_neg (by omega), if_pos c]
  · -- here the sum may wrap; the second disjunct of the guard catches it
    rw [if_pos (by unfold u64 W64 at *; omega), if_neg c]

theorem back_eq (h : s.Inv) (d : Nat) : MemR.back s d =
    if d ≤ s.pos then .ok { s with pos := s.pos - d } else .error .bounds := by
  obtain ⟨h1, h2⟩ := h
  unfold MemR.back
  by_cases c : d ≤ s.pos
  · rw [if_neg (by omega), if_pos c, u64_sub c (by omega)]
  · rw [if_pos (by omega), if_neg c]

theorem peek_eq (h : s.Inv) (k : Nat) : MemR.peek s k =
    if s.pos + k ≤ s.data.length then .ok (s.window k, s) else .error .bounds := by
  rw [MemR.peek, read_eq h]
  by_cases c : s.pos + k ≤ s.data.length
  · have h' : RSpec.Inv { s with pos := s.pos + k } := ⟨c, h.2⟩
    simp only [if_pos c, back_eq h', if_pos (Nat.le_add_left k s.pos), Nat.add_sub_cancel]
  · simp only [if_neg c]

theorem slice2_eq (h : s.Inv) {a b : Nat} (ha : a < W64) (hb : b < W64) : MemR.slice2 s a b =
    if a + b ≤ s.data.length then .ok { data := (s.data.drop a).take b, pos := 0 } else .error .bounds := by
  obtain ⟨_, h2⟩ := h
  rw [MemR.slice2]
  by_cases c : a + b ≤ s.data.length
  · rw [u64_of_lt (by omega), if_neg (by omega), if_pos c]
  · rw [if_pos (by unfold u64 W64 at *; omega), if_neg c]

theorem slice1_eq (h : s.Inv) {n : Nat} (hn : n < W64) : MemR.slice1 s n =
    if s.pos + n ≤ s.data.length then .ok ({ data := (s.data.drop s.pos).take n, pos := 0 }, { s with pos := s.pos + n })
    else .error .bounds := by
  rw [MemR.slice1, slice2_eq h (Nat.lt_of_le_of_lt h.1 h.2) hn, fwd_eq h n hn]
  by_cases c : s.pos + n ≤ s.data.length <;> simp only [c, ↓reduceIte]

end MemR

theorem memExact : WrappedExact memWrapped id RSpec.Inv where
  inv _ h := h
  len _ _ := rfl
  pos _ _ := rfl
  read s k h hin := ⟨_, (MemR.read_eq h k).trans (if_pos hin), ⟨hin, h.2⟩, rfl⟩
  readPartial s k h hin := by
    have e : min k (s.data.length - s.pos) = k := Nat.min_eq_left (Nat.le_sub_of_add_le' hin)
    exact ⟨{ s with pos := s.pos + k }, (MemR.readPartial_eq h k).trans (by rw [e]; rfl), ⟨hin, h.2⟩, rfl⟩
  seek s p h hp := ⟨_, (MemR.seek_eq p).trans (if_pos hp), ⟨hp, h.2⟩, rfl⟩
  fwd s d h hin :=
    ⟨_, (MemR.fwd_eq h d (Nat.lt_of_le_of_lt (Nat.le_trans (Nat.le_add_left ..) hin) h.2)).trans (if_pos hin), ⟨hin, h.2⟩, rfl⟩
  back s d h hin := ⟨_, (MemR.back_eq h d).trans (if_pos hin), ⟨Nat.le_trans (Nat.sub_le ..) h.1, h.2⟩, rfl⟩
  readPartial_clamp s k h := by
    show MemR.readPartial s k = MemR.readPartial s (min k (s.data.length - s.pos))
    rw [MemR.readPartial_eq h, MemR.readPartial_eq h, Nat.min_assoc, Nat.min_self]
  read_err s k h hout := (MemR.read_eq h k).trans (if_neg hout)
  seek_err s p _ hout := (MemR.seek_eq p).trans (if_neg hout)
  fwd_err s d h hd hout := (MemR.fwd_eq h d hd).trans (if_neg hout)
  back_err s d h hout := (MemR.back_eq h d).trans (if_neg hout)

theorem memWrappedOK : WrappedOK memWrapped id RSpec.Inv := memExact.toWrappedOK

theorem keeps_mem : Keeps memWrapped (fun s : MemR => s.data) where
  read s k b s' h := by
    simp only [memWrapped, MemR.read] at h
    split at h <;> cases h
    rfl
  readPartial _ _ := rfl
  seek s p s' h := by
    simp only [memWrapped, MemR.seek] at h
    split at h <;> cases h
    rfl
  fwd s d s' h := by
    simp only [memWrapped, MemR.fwd] at h
    split at h <;> cases h
    rfl
  back s d s' h := by
    simp only [memWrapped, MemR.back] at h
    split at h <;> cases h
    rfl

theorem MemR.refines : Refines MemR.step id RSpec.Inv := MemR.step_eq ▸ memExact.refines

theorem mem_refines (s : MemR) (h : s.Inv) (op : ROp) (ha : op.argOk) : MemR.step s op = RSpec.step s op := by
  obtain ⟨e, _, a⟩ := MemR.refines.step s op h ha
  exact Prod.ext e a

theorem mem_refines_hist (ops : List ROp) : ∀ (s : MemR), s.Inv → (∀ op ∈ ops, op.argOk) →
    runWith MemR.step s ops = runWith RSpec.step s ops := MemR.refines.hist ops

end Op2.Stream
