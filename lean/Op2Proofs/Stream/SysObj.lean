import Op2Model.StreamSys
import Op2Proofs.Stream.Nesting
/-!
One live reader object of any backend.  `Rd.abs` is what an object is to its user: the bytes it exposes and the cursor relative
to them.  `Rd.Good` is the class invariant of each backend (`MemoryReader`: cursor inside the data, data shorter than 2^64;
`SliceReader<W>`: window inside the wrapped data, wrapped cursor inside the window, recursively).
-/
namespace Op2.Stream

def Rd.abs : Rd → RSpec
  | .mem s => s
  | .file s => s
  | .fsl s => sliceAbs id s
  | .fss s => sliceAbs (sliceAbs id) s

def Rd.Good : Rd → Prop
  | .mem s => s.Inv
  | .file s => s.Inv
  | .fsl s => sliceGood RSpec.Inv id s
  | .fss s => sliceGood (sliceGood RSpec.Inv id) (sliceAbs id) s

/-- `Rd.derive` has no derivations of an `fss` object (`none`: not in the public interface), where `specOStep` would create a
    slice; statements about derivations therefore carry `NoFss` -/
def Rd.NoFss : Rd → Prop
  | .fss _ => False
  | _ => True

theorem Rd.abs_content (r : Rd) : r.abs.data = r.content := by
  cases r <;> rfl

theorem Rd.refines : Refines Rd.step Rd.abs Rd.Good where
  inv r hr := by
    cases r with
    | mem s => exact hr
    | file s => exact hr
    | fsl s => exact (sliceWrappedOK fileWrappedOK).inv s hr
    | fss s => exact (sliceWrappedOK (sliceWrappedOK fileWrappedOK)).inv s hr
  step r op hr ha := by
    cases r with
    | mem s => exact MemR.refines.step s op hr ha
    | file s => exact ⟨rfl, RSpec.step_inv s hr op, rfl⟩
    | fsl s => exact (Slice.refines fileWrappedOK).step s op hr ha
    | fss s => exact (Slice.refines (sliceWrappedOK fileWrappedOK)).step s op hr ha

theorem Rd.step_abs (r : Rd) (op : ROp) (hr : r.Good) (ha : op.argOk) :
    (r.step op).1 = (RSpec.step r.abs op).1 ∧ (r.step op).2.abs = (RSpec.step r.abs op).2 :=
  ⟨(Rd.refines.step r op hr ha).1, (Rd.refines.step r op hr ha).2.2⟩

theorem Rd.step_good (r : Rd) (op : ROp) (hr : r.Good) (ha : op.argOk) : (r.step op).2.Good :=
  (Rd.refines.step r op hr ha).2.1

theorem Rd.step_noFss (r : Rd) (op : ROp) (h : r.NoFss) : (r.step op).2.NoFss := by
  cases r <;> first | exact h.elim | trivial

theorem Rd.observables (r : Rd) (hr : r.Good) : r.pos = r.abs.pos ∧ r.len = r.abs.data.length ∧ r.pos ≤ r.len := by
  have h : r.pos = r.abs.pos ∧ r.len = r.abs.data.length := by
    cases r with
    | mem m => exact ⟨rfl, rfl⟩
    | file f => exact ⟨rfl, rfl⟩
    | fsl s => exact ⟨(sliceWrappedOK fileWrappedOK).pos s hr, (sliceWrappedOK fileWrappedOK).len s hr⟩
    | fss s =>
      exact ⟨(sliceWrappedOK (sliceWrappedOK fileWrappedOK)).pos s hr, (sliceWrappedOK (sliceWrappedOK fileWrappedOK)).len s hr⟩
  exact ⟨h.1, h.2, by rw [h.1, h.2]; exact (Rd.refines.inv r hr).1⟩

def windowOf (x : Bytes × Nat × Nat) : Bytes := (x.1.drop x.2.1).take x.2.2

theorem Rd.step_content (r : Rd) (op : ROp) : (r.step op).2.content = r.content := by
  cases r with
  | mem s =>
    show (MemR.step s op).2.data = s.data
    rw [MemR.step_eq]; exact Wrapped.step_keeps keeps_mem s op
  | file s => exact RSpec.step_data s op
  | fsl s =>
    -- `content` is `windowOf` of the slice's key, which no operation changes
    show windowOf (sliceKey (·.data) (Slice.step fileWrapped s op).2) = _
    rw [Slice.step_eq, Wrapped.step_keeps (keeps_slice keeps_file)]; rfl
  | fss s =>
    show (fun k => windowOf (windowOf k.1, k.2)) (sliceKey (sliceKey (·.data)) (Slice.step fslW s op).2) = _
    rw [Slice.step_eq]
    exact congrArg (fun k => windowOf (windowOf k.1, k.2)) (Wrapped.step_keeps (keeps_slice (keeps_slice keeps_file)) s op)

theorem Rd.step_err_noop (r : Rd) (op : ROp) (h : (r.step op).1 = .err) : (r.step op).2 = r := by
  cases r with
  | mem s => simp only [Rd.step, MemR.step_eq] at h ⊢; rw [Wrapped.step_err_noop _ s op h]
  | file s => simp only [Rd.step] at h ⊢; rw [RSpec.step_err_noop s op h]
  | fsl s => simp only [Rd.step, Slice.step_eq] at h ⊢; rw [Wrapped.step_err_noop _ s op h]
  | fss s => simp only [Rd.step, Slice.step_eq] at h ⊢; rw [Wrapped.step_err_noop _ s op h]

end Op2.Stream
