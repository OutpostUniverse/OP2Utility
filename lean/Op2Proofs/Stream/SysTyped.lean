import Op2Proofs.Stream.SysObj
import Op2Proofs.Stream.TypedReads
/-!
`Rd.read` is the checked `Read(k)` the typed helpers (`ReadNullTerminatedString`, `Read<SizeType>(container)`) are written
against; the model driver runs them over `Rd.read` for every backend.  One simulation lemma puts all of them on the
abstract reader over what the object exposes.
-/
namespace Op2.Stream

set_option smartUnfolding false in
theorem Rd.read_sim (r : Rd) (hr : r.Good) (k : Nat) (hk : k < W64) :
    SimRes Eq Rd.abs Rd.Good (r.read k) (RSpec.rd r.abs k) :=
  Rd.refines.rd_sim (rd := Rd.read) (fun _ _ => rfl) r k hr hk

theorem Rd.readPrefixed_sim (r : Rd) (hr : r.Good) (width : Nat) (signed : Bool) (esz maxSize cap : Nat)
    (hw : width < W64) (hcap : cap ≤ W64) :
    SimRes Eq Rd.abs Rd.Good (readPrefixed Rd.read width signed esz maxSize cap r)
      (readPrefixed RSpec.rd width signed esz maxSize cap r.abs) :=
  Op2.Stream.readPrefixed_sim Eq (fun _ => rfl) Rd.read Rd.abs Rd.Good (fun t k ht hk => Rd.read_sim t ht k hk)
    width signed esz maxSize cap hw hcap r hr

end Op2.Stream
