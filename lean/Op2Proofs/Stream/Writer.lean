import Op2Proofs.Stream.Refine
/-!
`MemW.spec` is the fixed-buffer writer of C14 in ℕ (the property in executable form, as `RSpec.step` is for C12);
`MemW.step_eq_spec`: the u64-guarded `MemW.step` equals it.  `patch` (what a write does to the buffer) and `copy_spec`
(the chunked copy loop, also used by `Vol/Layout.lean`).
-/
namespace Op2.Stream
open Op2

def MemW.Inv (s : MemW) : Prop := s.pos ≤ s.buf.length ∧ s.buf.length < W64

def WOp.argOk : WOp → Prop
  | .write b => b.length < W64
  | .seek k | .fwd k | .back k => k < W64
  | .seekBegin | .seekEnd => True

def MemW.spec (s : MemW) : WOp → Bool × MemW
  | .write b => if s.pos + b.length ≤ s.buf.length then (true, { buf := patch s.buf s.pos b, pos := s.pos + b.length }) else (false, s)
  | .seek p => if p ≤ s.buf.length then (true, { s with pos := p }) else (false, s)
  | .fwd d => if s.pos + d ≤ s.buf.length then (true, { s with pos := s.pos + d }) else (false, s)
  | .back d => if d ≤ s.pos then (true, { s with pos := s.pos - d }) else (false, s)
  | .seekBegin => (true, { s with pos := 0 })
  | .seekEnd => (true, { s with pos := s.buf.length })

theorem patch_length (buf : Bytes) (pos : Nat) (b : Bytes) (h : pos + b.length ≤ buf.length) :
    (patch buf pos b).length = buf.length := by
  simp [patch]; omega

theorem patch_outside (buf : Bytes) (pos : Nat) (b : Bytes) (h : pos + b.length ≤ buf.length) (i : Nat)
    (hi : i < pos ∨ pos + b.length ≤ i) : (patch buf pos b)[i]? = buf[i]? := by
  unfold patch
  rcases hi with hi | hi
  · rw [List.append_assoc, List.getElem?_append_left (by simp; omega)]
    simp [hi]
  · rw [List.getElem?_append_right (by simp; omega)]
    simp only [List.length_append, List.length_take]
    rw [List.getElem?_drop]
    congr 1
    have : min pos buf.length = pos := by omega
    omega

theorem patch_inside (buf : Bytes) (pos : Nat) (b : Bytes) (h : pos + b.length ≤ buf.length) (i : Nat)
    (hi : i < b.length) : (patch buf pos b)[pos + i]? = b[i]? := by
  unfold patch
  rw [List.getElem?_append_left (by simp; omega)]
  rw [List.getElem?_append_right (by simp; omega)]
  simp only [List.length_take]
  congr 1
  have : min pos buf.length = pos := by omega
  omega

namespace MemW
variable {s : MemW}

theorem seek_eq (p : Nat) : MemW.seek s p = if p ≤ s.buf.length then .ok { s with pos := p } else .error .bounds := by
  unfold MemW.seek
  by_cases c : p ≤ s.buf.length
  · rw [if_neg (by omega), if_pos c]
  · rw [if_pos (by omega), if_neg c]

theorem write_eq (h : s.Inv) (b : Bytes) : MemW.write s b =
    if s.pos + b.length ≤ s.buf.length then .ok { buf := patch s.buf s.pos b, pos := s.pos + b.length } else .error .bounds := by
  obtain ⟨h1, h2⟩ := h
  rw [MemW.write, u64_sub h1 h2]
  by_cases c : s.pos + b.length ≤ s.buf.length
  · rw [if_neg (by omega), if_pos c, u64_of_lt (by omega)]
  · rw [if_pos (by omega), if_neg c]

theorem fwd_eq (h : s.Inv) (d : Nat) : MemW.fwd s d =
    if s.pos + d ≤ s.buf.length then .ok { s with pos := s.pos + d } else .error .bounds := by
  obtain ⟨h1, h2⟩ := h
  rw [MemW.fwd, u64_sub h1 h2]
  by_cases c : s.pos + d ≤ s.buf.length
  · rw [if_neg (by omega), u64_of_lt (by omega), seek_eq, if_pos c]
  · rw [if_pos (by omega), if_neg c]

theorem back_eq (h : s.Inv) (d : Nat) : MemW.back s d =
    if d ≤ s.pos then .ok { s with pos := s.pos - d } else .error .bounds := by
  obtain ⟨h1, h2⟩ := h
  rw [MemW.back]
  by_cases c : d ≤ s.pos
  · rw [if_neg (by omega), u64_sub c (by omega), seek_eq, if_pos (by omega), if_pos c]
  · rw [if_pos (by omega), if_neg c]

end MemW

/-- no argument needs to be below 2^64: every guard of the writer subtracts -/
theorem MemW.step_eq_spec (s : MemW) (h : s.Inv) (op : WOp) : MemW.step s op = MemW.spec s op := by
  cases op <;> simp only [MemW.step, MemW.spec, MemW.write_eq h, MemW.seek_eq, MemW.fwd_eq h, MemW.back_eq h]
  case seekBegin => rw [if_pos (Nat.zero_le _)]
  case seekEnd => rw [u64_sub h.1 h.2, if_pos (by have := h.1; omega), Nat.add_sub_cancel' h.1]
  case write b => by_cases c : s.pos + b.length ≤ s.buf.length <;> simp only [c, ↓reduceIte]
  case seek p => by_cases c : p ≤ s.buf.length <;> simp only [c, ↓reduceIte]
  case fwd d => by_cases c : s.pos + d ≤ s.buf.length <;> simp only [c, ↓reduceIte]
  case back d => by_cases c : d ≤ s.pos <;> simp only [c, ↓reduceIte]

theorem MemW.spec_inv (s : MemW) (h : s.Inv) (op : WOp) : (MemW.spec s op).2.Inv := by
  obtain ⟨h1, h2⟩ := h
  cases op <;> simp only [MemW.spec] <;> (try split) <;> simp only [MemW.Inv] <;>
    (try rw [patch_length _ _ _ (by assumption)]) <;> omega

def runW {σ : Type} (f : σ → WOp → Bool × σ) : σ → List WOp → List Bool × σ
  | s, [] => ([], s)
  | s, op :: ops => let r := f s op; let rest := runW f r.2 ops; (r.1 :: rest.1, rest.2)

theorem copy_spec (B : Nat) (hB : 0 < B) : ∀ fuel (r : RSpec) (w : Bytes), r.pos ≤ r.data.length →
    r.data.length - r.pos < fuel →
    copyLoop B fuel r w = ({ r with pos := r.data.length }, w ++ r.data.drop r.pos) := by
  intro fuel
  induction fuel with
  | zero => intro r w _ h; omega
  | succ fuel ih =>
    intro r w hp hf
    simp only [copyLoop, RSpec.window_length]
    by_cases hz : min B (r.data.length - r.pos) = 0
    · -- nothing left: the empty chunk ends the loop
      have hd : r.data.drop r.pos = [] := List.drop_eq_nil_of_le (by omega)
      have hpos : r.pos + 0 = r.data.length := by omega
      simp only [hz, Nat.zero_min, if_true, RSpec.window, List.take_zero, hd, hpos]
    · rw [Nat.min_eq_left (Nat.min_le_right ..), if_neg hz, ih _ _ (by simp only; omega) (by simp only; omega)]
      simp only [RSpec.window, List.append_assoc, ← List.drop_drop, List.take_append_drop]
end Op2.Stream
