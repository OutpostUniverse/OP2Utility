import Op2Proofs.Stream.Refine
/-!
`SliceReader<W>` over any stream that is right on in-bounds calls checks its own bounds (`sliceExact`); hence it refines the
abstract reader over its window (`Slice.refines`) and can itself be wrapped (`sliceWrappedOK`).
-/
namespace Op2.Stream
open Op2

variable {σ : Type} {W : Wrapped σ} {ab : σ → RSpec} {G : σ → Prop}

def sliceAbs (ab : σ → RSpec) (s : Slice σ) : RSpec :=
  { data := ((ab s.w).data.drop s.start).take s.len, pos := (ab s.w).pos - s.start }

def sliceGood (G : σ → Prop) (ab : σ → RSpec) (s : Slice σ) : Prop :=
  G s.w ∧ s.start + s.len ≤ (ab s.w).data.length ∧ s.start ≤ (ab s.w).pos ∧ (ab s.w).pos ≤ s.start + s.len

theorem sliceAbs_len (s : Slice σ) (hs : sliceGood G ab s) : (sliceAbs ab s).data.length = s.len := by
  have := hs.2.1
  simp [sliceAbs]; omega

theorem slice_pos_le (s : Slice σ) (hs : sliceGood G ab s) : (sliceAbs ab s).pos ≤ s.len := by
  obtain ⟨_, _, h2, h3⟩ := hs
  show (ab s.w).pos - s.start ≤ s.len
  omega

theorem Slice.position_eq (ok : WrappedOK W ab G) (s : Slice σ) (hs : sliceGood G ab s) :
    Slice.position W s = (sliceAbs ab s).pos := by
  obtain ⟨hg, h1, h2, h3⟩ := hs
  obtain ⟨hi1, hi2⟩ := ok.inv s.w hg
  rw [Slice.position, ok.pos s.w hg, u64_sub h2 (by omega)]
  rfl

/-- the guards' "bytes left in the slice" -/
theorem slice_left (ok : WrappedOK W ab G) (s : Slice σ) (hs : sliceGood G ab s) :
    u64 (W64 + s.len - Slice.position W s) = s.len - (sliceAbs ab s).pos := by
  rw [Slice.position_eq ok s hs]
  obtain ⟨hg, h1, _, _⟩ := id hs
  obtain ⟨_, hi2⟩ := ok.inv s.w hg
  exact u64_sub (slice_pos_le s hs) (by omega)

theorem sliceAbs_window (s : Slice σ) (hs : sliceGood G ab s) (k : Nat) (hk : (sliceAbs ab s).pos + k ≤ s.len) :
    (sliceAbs ab s).window k = (ab s.w).window k := by
  obtain ⟨_, h1, h2, h3⟩ := hs
  have hk' : (ab s.w).pos - s.start + k ≤ s.len := hk
  simp only [RSpec.window, sliceAbs, take_drop_window]
  congr 2 <;> omega

/-- a call that moves the wrapped stream to `start + q`, inside the window, moves the slice to `q` -/
theorem slice_lift (s : Slice σ) (hs : sliceGood G ab s) {p q : Nat} (hq : p = s.start + q) (hq2 : q ≤ s.len)
    {R : σ → Prop} (h : ∃ w', R w' ∧ G w' ∧ ab w' = { ab s.w with pos := p }) :
    ∃ w', R w' ∧ sliceGood G ab { s with w := w' } ∧
      sliceAbs ab { s with w := w' } = { sliceAbs ab s with pos := q } := by
  obtain ⟨w', r, g, a⟩ := h
  refine ⟨w', r, ⟨g, ?_, ?_, ?_⟩, ?_⟩ <;> simp only [sliceAbs, a]
  · exact hs.2.1
  · omega
  · omega
  · congr 1; omega

theorem sliceExact (ok : WrappedOK W ab G) : WrappedExact (Slice.asWrapped W) (sliceAbs ab) (sliceGood G ab) where
  inv s hs := by
    have hl := sliceAbs_len s hs
    have hp := slice_pos_le s hs
    obtain ⟨hg, h1, _, _⟩ := hs
    obtain ⟨_, hi2⟩ := ok.inv s.w hg
    exact ⟨by rw [hl]; exact hp, by rw [hl]; omega⟩
  len s hs := (sliceAbs_len s hs).symm
  pos s hs := Slice.position_eq ok s hs
  read s k hs hin := by
    rw [sliceAbs_len s hs] at hin
    have hin' : (ab s.w).pos - s.start + k ≤ s.len := hin
    obtain ⟨hg, h1, h2, h3⟩ := id hs
    obtain ⟨w', e, g, a⟩ := slice_lift s hs (q := (sliceAbs ab s).pos + k) (by show _ = s.start + ((ab s.w).pos - s.start + k); omega)
      hin (ok.read s.w k hg (by omega))
    refine ⟨{ s with w := w' }, ?_, g, a⟩
    simp only [Slice.asWrapped, Slice.read, slice_left ok s hs, if_neg (Nat.not_lt.mpr (Nat.le_sub_of_add_le' hin)), e,
      sliceAbs_window s hs k hin]
  readPartial s k hs hin := by
    rw [sliceAbs_len s hs] at hin
    have hin' : (ab s.w).pos - s.start + k ≤ s.len := hin
    obtain ⟨hg, h1, h2, h3⟩ := id hs
    obtain ⟨w', e, g, a⟩ := slice_lift s hs (q := (sliceAbs ab s).pos + k) (by show _ = s.start + ((ab s.w).pos - s.start + k); omega)
      hin (ok.readPartial s.w k hg (by omega))
    refine ⟨{ s with w := w' }, ?_, g, a⟩
    have e2 : (if k < s.len - (sliceAbs ab s).pos then k else s.len - (sliceAbs ab s).pos) = k := by split <;> omega
    simp only [Slice.asWrapped, Slice.readPartial, slice_left ok s hs, e2, e, sliceAbs_window s hs k hin]
  seek s p hs hp := by
    rw [sliceAbs_len s hs] at hp
    obtain ⟨hg, h1, h2, h3⟩ := id hs
    obtain ⟨_, hi2⟩ := ok.inv s.w hg
    obtain ⟨w', e, g, a⟩ := slice_lift s hs rfl hp (ok.seek s.w (s.start + p) hg (by omega))
    refine ⟨{ s with w := w' }, ?_, g, a⟩
    simp only [Slice.asWrapped, Slice.seek, if_neg (Nat.not_lt.mpr hp), u64_of_lt (show s.start + p < W64 by omega), e]
  fwd s d hs hin := by
    rw [sliceAbs_len s hs] at hin
    have hin' : (ab s.w).pos - s.start + d ≤ s.len := hin
    obtain ⟨hg, h1, h2, h3⟩ := id hs
    obtain ⟨w', e, g, a⟩ := slice_lift s hs (q := (sliceAbs ab s).pos + d) (by show _ = s.start + ((ab s.w).pos - s.start + d); omega)
      hin (ok.fwd s.w d hg (by omega))
    refine ⟨{ s with w := w' }, ?_, g, a⟩
    simp only [Slice.asWrapped, Slice.fwd, slice_left ok s hs, if_neg (Nat.not_lt.mpr (Nat.le_sub_of_add_le' hin)), e]
  back s d hs hin := by
    have hin' : d ≤ (ab s.w).pos - s.start := hin
    have hp := slice_pos_le s hs
    obtain ⟨hg, h1, h2, h3⟩ := id hs
    obtain ⟨w', e, g, a⟩ := slice_lift s hs (q := (sliceAbs ab s).pos - d) (by show _ = s.start + ((ab s.w).pos - s.start - d); omega)
      (Nat.le_trans (Nat.sub_le ..) hp) (ok.back s.w d hg (by omega))
    refine ⟨{ s with w := w' }, ?_, g, a⟩
    simp only [Slice.asWrapped, Slice.back, Slice.position_eq ok s hs, if_neg (Nat.not_lt.mpr hin), e]
  readPartial_clamp s k hs := by
    have e : ∀ k, (if k < s.len - (sliceAbs ab s).pos then k else s.len - (sliceAbs ab s).pos)
        = min k (s.len - (sliceAbs ab s).pos) := by
      intro k; split <;> omega
    simp only [Slice.asWrapped, Slice.readPartial, slice_left ok s hs, e, sliceAbs_len s hs, Nat.min_assoc, Nat.min_self]
  read_err s k hs hout := by
    rw [sliceAbs_len s hs] at hout
    have hp := slice_pos_le s hs
    simp only [Slice.asWrapped, Slice.read, slice_left ok s hs, if_pos (show k > s.len - (sliceAbs ab s).pos by omega)]
  seek_err s p hs hout := by
    rw [sliceAbs_len s hs] at hout
    simp only [Slice.asWrapped, Slice.seek, if_pos (Nat.not_le.mp hout)]
  fwd_err s d hs _ hout := by
    rw [sliceAbs_len s hs] at hout
    have hp := slice_pos_le s hs
    simp only [Slice.asWrapped, Slice.fwd, slice_left ok s hs, if_pos (show d > s.len - (sliceAbs ab s).pos by omega)]
  back_err s d hs hout := by
    simp only [Slice.asWrapped, Slice.back, Slice.position_eq ok s hs, if_pos (Nat.not_le.mp hout)]

/-- the induction step for nesting to any depth -/
theorem sliceWrappedOK (ok : WrappedOK W ab G) : WrappedOK (Slice.asWrapped W) (sliceAbs ab) (sliceGood G ab) :=
  (sliceExact ok).toWrappedOK

theorem Slice.peek_eq_wrapped (W : Wrapped σ) (s : Slice σ) (k : Nat) :
    Slice.peek W s k = (Slice.asWrapped W).peek s k := by
  simp only [Slice.peek, Wrapped.peek, Slice.asWrapped]
  split <;> simp only [*]
  split <;> simp only [*]

theorem Slice.step_eq (W : Wrapped σ) : Slice.step W = (Slice.asWrapped W).step := by
  funext s op
  cases op <;> simp only [Slice.step, Slice.peek_eq_wrapped, Slice.seekEnd, Wrapped.step, Slice.asWrapped] <;>
    split <;> simp only [*]

theorem Slice.refines (ok : WrappedOK W ab G) : Refines (Slice.step W) (sliceAbs ab) (sliceGood G ab) :=
  Slice.step_eq W ▸ (sliceExact ok).refines

def sliceKey {σ κ : Type} (key : σ → κ) (s : Slice σ) : κ × Nat × Nat := (key s.w, s.start, s.len)

theorem keeps_slice {κ : Type} {key : σ → κ} (K : Keeps W key) : Keeps (Slice.asWrapped W) (sliceKey key) where
  read s k b s' h := by
    simp only [Slice.asWrapped, Slice.read] at h
    split at h
    · cases h
    · split at h <;> cases h
      simp only [sliceKey, K.read _ _ _ _ ‹_›]
  readPartial s k := by simp only [Slice.asWrapped, Slice.readPartial, sliceKey, K.readPartial]
  seek s p s' h := by
    simp only [Slice.asWrapped, Slice.seek] at h
    split at h
    · cases h
    · split at h <;> cases h
      simp only [sliceKey, K.seek _ _ _ ‹_›]
  fwd s d s' h := by
    simp only [Slice.asWrapped, Slice.fwd] at h
    split at h
    · cases h
    · split at h <;> cases h
      simp only [sliceKey, K.fwd _ _ _ ‹_›]
  back s d s' h := by
    simp only [Slice.asWrapped, Slice.back] at h
    split at h
    · cases h
    · split at h <;> cases h
      simp only [sliceKey, K.back _ _ _ ‹_›]

end Op2.Stream
