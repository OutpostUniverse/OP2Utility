import Op2Proofs.Stream.SysObj
import Op2Proofs.Stream.Writer
/-!
# Copying a reader of any backend into a writer
-/
namespace Op2.Stream

theorem copyLoopRd_abs (B : Nat) (hB : B < W64) (fuel : Nat) : ∀ (r : Rd) (w : Bytes), r.Good →
    ((copyLoopRd B fuel r w).1.abs, (copyLoopRd B fuel r w).2) = copyLoop B fuel r.abs w ∧ (copyLoopRd B fuel r w).1.Good := by
  induction fuel with
  | zero => intro r w hr; exact ⟨rfl, hr⟩
  | succ fuel ih =>
    intro r w hr
    obtain ⟨r', e, g, a⟩ := Rd.refines.step_pair r (.readPartial B) hr hB
    simp only [copyLoopRd, copyLoop, e, RSpec.step]
    split
    · exact ⟨by rw [a]; rfl, g⟩
    · have h := ih r' (w ++ r.abs.window (min B (r.abs.data.length - r.abs.pos))) g
      rw [a] at h
      exact h

theorem copy_every_backend (B : Nat) (hB : 0 < B) (hB64 : B < W64) (r : Rd) (hr : r.Good) (w : Bytes) (fuel : Nat)
    (hf : r.abs.data.length - r.abs.pos < fuel) :
    (copyLoopRd B fuel r w).2 = w ++ r.abs.data.drop r.abs.pos ∧
    (copyLoopRd B fuel r w).1.abs = { r.abs with pos := r.abs.data.length } ∧ (copyLoopRd B fuel r w).1.Good := by
  obtain ⟨e, g⟩ := copyLoopRd_abs B hB64 fuel r w hr
  have hp := (Rd.refines.inv r hr).1
  rw [copy_spec B hB fuel r.abs w hp hf] at e
  exact ⟨congrArg Prod.snd e, congrArg Prod.fst e, g⟩

end Op2.Stream
